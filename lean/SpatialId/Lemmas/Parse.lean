/-
What a successful `parseExt` says about the string: exactly five fields, each parsing to the component.
-/
import SpatialId.Basic
namespace SpatialId

theorem parseExt_fields (s : String) (e : Ext) (h : parseExt s = some e) :
    ∃ a b c d f, splitSlash s = [a, b, c, d, f] ∧ parseInt64 a = some e.h ∧ parseInt64 b = some e.x ∧
      parseInt64 c = some e.y ∧ parseInt64 d = some e.v ∧ parseInt64 f = some e.f := by
  unfold parseExt at h
  split at h
  · rename_i a b c d f hs
    split at h
    · rename_i h' x' y' v' f' h1 h2 h3 h4 h5
      cases h
      exact ⟨a, b, c, d, f, hs, h1, h2, h3, h4, h5⟩
    · cases h
  · cases h

theorem parseInt64Lossy_of_some {s : String} {v : Int} (h : parseInt64 s = some v) : parseInt64Lossy s = v := by
  simp [parseInt64Lossy, h]

end SpatialId
