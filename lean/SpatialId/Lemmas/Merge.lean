/-
Lemmas about the merge model: `Higher` is the floor ancestor, the unit voxels of an input are the
max-zoom voxels meeting it, the members of a group, and the density count (pigeonhole on duplicate-free lists).
-/
import Mathlib.Data.List.Perm.Subperm
import Mathlib.Data.List.Nodup
import SpatialId.Model.Merge
import SpatialId.Lemmas.Zoom
namespace SpatialId
open C05 (anc)

/-- the vertical quotient of `Higher` (D2 fixed): truncating quotient, minus one for a negative remainder = floor -/
theorem tdiv_floor_fix (f n : Int) (hn : 0 < n) : (if f.tmod n < 0 then f.tdiv n - 1 else f.tdiv n) = f / n := by
  have h1 := Int.tdiv_mul_add_tmod f n
  have h2 := Int.tmod_lt_of_pos f hn
  have h3 := Int.lt_tmod_of_pos f hn
  rw [eq_comm, ediv_eq_iff_block _ _ _ hn]
  split
  · rw [Int.sub_mul]; omega
  · omega

theorem higher_eq_anc (e : Ext) (H V : Int) (hH : H ≤ e.h) (hV : V ≤ e.v) (hx : 0 ≤ e.x) (hy : 0 ≤ e.y) :
    higher e (e.h - H) (e.v - V) = anc e H V := by
  unfold higher anc
  simp only []
  rw [pow2_nonneg_eq _ (Int.sub_nonneg.mpr hH), pow2_nonneg_eq _ (Int.sub_nonneg.mpr hV), Int.tdiv_eq_ediv_of_nonneg hx,
    Int.tdiv_eq_ediv_of_nonneg hy, tdiv_floor_fix _ _ (two_pow_pos _)]
  simp only [Ext.mk.injEq, and_true, true_and]
  omega

theorem maxZoomH_ge (es : List Ext) : 0 ≤ maxZoomH es ∧ ∀ e ∈ es, e.h ≤ maxZoomH es :=
  (foldl_select (· ≤ ·) (fun e : Ext => e.h) (fun m e => e.h > m) Int.le_refl Int.le_trans (fun _ _ => Int.le_of_lt)
    (fun _ _ => Int.not_lt.mp) es 0).2
theorem maxZoomV_ge (es : List Ext) : 0 ≤ maxZoomV es ∧ ∀ e ∈ es, e.v ≤ maxZoomV es :=
  (foldl_select (· ≤ ·) (fun e : Ext => e.v) (fun m e => e.v > m) Int.le_refl Int.le_trans (fun _ _ => Int.le_of_lt)
    (fun _ _ => Int.not_lt.mp) es 0).2

theorem mem_unitsOf {e : Ext} {mH mV : Int} (h : 0 ≤ e.h ∧ 0 ≤ e.v ∧ e.h ≤ mH ∧ e.v ≤ mV) (u : Ext) :
    u ∈ unitsOf e mH mV ↔ u.h = mH ∧ u.v = mV ∧ meets e u := by
  obtain ⟨hh, hv, hH, hV⟩ := h
  obtain ⟨uh, ux, uy, uv, uf⟩ := u
  simp only [unitsOf, meets, List.mem_flatMap, List.mem_map, Ext.mk.injEq, pow2_nonneg_eq _ (Int.sub_nonneg.mpr hH),
    pow2_nonneg_eq _ (Int.sub_nonneg.mpr hV), Int.add_mul, Int.one_mul, mem_irange_block hh hH, mem_irange_block hv hV]
  constructor
  · rintro ⟨x, hx, y, hy, z, hz, rfl, rfl, rfl, rfl, rfl⟩
    exact ⟨rfl, rfl, hx, hy, hz⟩
  · rintro ⟨rfl, rfl, m1, m2, m3⟩
    exact ⟨ux, m1, uy, m2, uf, m3, rfl, rfl, rfl, rfl, rfl⟩

/-- same members as the zoom-in of C03 -/
theorem mem_unitsOf_iff_zoomOne (e u : Ext) (mH mV : Int) (hh : 0 ≤ e.h) (hv : 0 ≤ e.v) (hH : e.h ≤ mH) (hV : e.v ≤ mV)
    (hx : 0 ≤ e.x) (hy : 0 ≤ e.y) : u ∈ unitsOf e mH mV ↔ u ∈ zoomOne mH mV e := by
  rw [mem_unitsOf ⟨hh, hv, hH, hV⟩, mem_zoomOne_in hH hV ⟨hh, hv, hx, hy⟩]

/-- well-formed inputs (what every valid ID satisfies; f is unconstrained) -/
def wfL (es : List Ext) : Prop := ∀ e ∈ es, 0 ≤ e.h ∧ 0 ≤ e.v ∧ 0 ≤ e.x ∧ 0 ≤ e.y

theorem eligible_iff (H V : Int) (e : Ext) : eligible H V e = true ↔ H ≤ e.h ∧ V ≤ e.v := by
  simp [eligible]

theorem keyOf_eq_anc {es : List Ext} (hw : wfL es) {H V : Int} {e : Ext} (he : e ∈ es) (h1 : H ≤ e.h) (h2 : V ≤ e.v) :
    keyOf H V e = anc e H V :=
  higher_eq_anc e H V h1 h2 (hw e he).2.2.1 (hw e he).2.2.2

theorem mem_membersOf {es : List Ext} (hw : wfL es) (H V : Int) (k e : Ext) :
    e ∈ membersOf es H V k ↔ e ∈ es ∧ (H ≤ e.h ∧ V ≤ e.v) ∧ anc e H V = k := by
  simp only [membersOf, List.mem_filter, eligible_iff, decide_eq_true_eq, and_assoc]
  refine and_congr_right fun he => and_congr_right fun h1 => and_congr_right fun h2 => ?_
  rw [keyOf_eq_anc hw he h1 h2]

theorem length_eq_iff_subset {α} {U D : List α} (hU : U.Nodup) (hD : D.Nodup) (h : U ⊆ D) :
    U.length = D.length ↔ D ⊆ U :=
  ⟨fun hl => ((List.subperm_of_subset hU h).perm_of_length_le (Nat.le_of_eq hl.symm)).symm.subset,
   fun h' => Nat.le_antisymm (List.subperm_of_subset hU h).length_le (List.subperm_of_subset hD h').length_le⟩

/-- the number of `(mH, mV)` descendants of a candidate at `(H, V)` is Go's threshold -/
theorem desc_count (k : Ext) (mH mV : Int) (h1 : k.h ≤ mH) (h2 : k.v ≤ mV) :
    ((zoomOne mH mV k).length : Int) = pow2 (mH - k.h) * pow2 (mH - k.h) * pow2 (mV - k.v) := by
  obtain ⟨dh, rfl⟩ := Int.le.dest h1
  obtain ⟨dv, rfl⟩ := Int.le.dest h2
  rw [length_zoomOne_in, add_sub_cancel_left, add_sub_cancel_left, pow2_natCast, pow2_natCast]
  push_cast
  rw [show (4 : Int) = 2 * 2 from rfl, Int.mul_pow]

/-- Go's density test is coverage: the distinct units of the members lie among the candidate's descendants at the unit zooms,
whose number is the threshold (`desc_count`); so the counts agree exactly when every such descendant is a unit of a member -/
theorem dense_iff_filled (es : List Ext) (hw : wfL es) (H V : Int) (hH0 : 0 ≤ H) (hV0 : 0 ≤ V)
    (e0 : Ext) (he0 : e0 ∈ es) (g1 : H ≤ e0.h) (g2 : V ≤ e0.v) :
    let k := anc e0 H V
    let mH := maxZoomH es
    let mV := maxZoomV es
    let g : Group := ⟨k, membersOf es H V k, (membersOf es H V k).flatMap fun e => unitsOf e mH mV⟩
    g.dense (pow2 (mH - H) * pow2 (mH - H) * pow2 (mV - V)) = true ↔ region k ⊆ regionL (membersOf es H V k) := by
  intro k mH mV g
  have hmH := (maxZoomH_ge es).2
  have hmV := (maxZoomV_ge es).2
  have hkwf : C03.wf k := anc_wf (hw e0 he0) hH0 hV0
  have hHm : H ≤ mH := Int.le_trans g1 (hmH e0 he0)
  have hVm : V ≤ mV := Int.le_trans g2 (hmV e0 he0)
  -- the members: inputs between the candidate's zooms and the unit zooms, inside the candidate
  have hL : ∀ e ∈ membersOf es H V k, (0 ≤ e.h ∧ 0 ≤ e.v ∧ e.h ≤ mH ∧ e.v ≤ mV) ∧ region e ⊆ region k := by
    intro e he
    obtain ⟨hes, ⟨h1, h2⟩, hk⟩ := (mem_membersOf hw H V k e).mp he
    exact ⟨⟨(hw e hes).1, (hw e hes).2.1, hmH e hes, hmV e hes⟩, hk ▸ region_subset_anc hH0 hV0 h1 h2⟩
  -- the descendants of the candidate and the distinct units, both at the unit zooms
  have hD : ∀ u, u ∈ zoomOne mH mV k ↔ u.h = mH ∧ u.v = mV ∧ meets k u :=
    mem_zoomOne_in hHm hVm hkwf
  have hU : ∀ u, u ∈ dedup g.units ↔ ∃ e ∈ membersOf es H V k, u.h = mH ∧ u.v = mV ∧ meets e u := by
    intro u
    simp only [g, mem_dedup, List.mem_flatMap]
    exact exists_congr fun e => and_congr_right fun he => mem_unitsOf (hL e he).1 u
  have hUD : dedup g.units ⊆ zoomOne mH mV k := by
    intro u hu
    obtain ⟨e, he, r1, r2, hm⟩ := (hU u).mp hu
    have hsub : region u ⊆ region e := region_subset_of_le (r1 ▸ (hL e he).1.2.2.1) (r2 ▸ (hL e he).1.2.2.2) hm
    exact (hD u).mpr ⟨r1, r2, meets_of_subset (hsub.trans (hL e he).2)⟩
  -- equal counts = same elements = covered, decided on the unit voxels
  have hdense : g.dense (pow2 (mH - H) * pow2 (mH - H) * pow2 (mV - V)) = true ↔
      (dedup g.units).length = (zoomOne mH mV k).length := by
    have hc : ((zoomOne mH mV k).length : Int) = pow2 (mH - H) * pow2 (mH - H) * pow2 (mV - V) :=
      desc_count k mH mV hHm hVm
    simp only [Group.dense, beq_iff_eq, ← hc]
    exact Int.ofNat_inj
  rw [hdense, length_eq_iff_subset (nodup_dedup _) (zoomOne_nodup mH mV k) hUD,
    C04.subset_iff_units k _ mH mV ⟨hkwf.1, hkwf.2.1, hHm, hVm⟩ (fun e he => (hL e he).1)]
  constructor
  · intro h u r1 r2 hm
    obtain ⟨e, he, _, _, hme⟩ := (hU u).mp (h ((hD u).mpr ⟨r1, r2, hm⟩))
    exact ⟨e, he, hme⟩
  · intro h u hu
    obtain ⟨r1, r2, hm⟩ := (hD u).mp hu
    obtain ⟨e, he, hme⟩ := h u r1 r2 hm
    exact (hU u).mpr ⟨e, he, r1, r2, hme⟩

end SpatialId
