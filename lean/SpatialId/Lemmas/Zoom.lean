/-
Integer lemmas about the per-axis zoom functions: closed forms of the index ranges, membership in them as the
floor-division relation `axisMeet` of Spec/Region.lean, and the ancestor of a voxel at coarser zooms.
-/
import SpatialId.Model.Zoom
import SpatialId.Lemmas.Core
import SpatialId.Spec.Region
namespace SpatialId

/-! `C03.wf` and `C05.anc` carry the names of the properties whose theorems are stated with them. -/

/-- well-formedness needed by the theorems: non-negative zooms and horizontal indices (every valid ID has it) -/
def C03.wf (e : Ext) : Prop := 0 ≤ e.h ∧ 0 ≤ e.v ∧ 0 ≤ e.x ∧ 0 ≤ e.y

/-- the ancestor of `e` at zooms `(H, V)`: floor division on every axis -/
def C05.anc (e : Ext) (H V : Int) : Ext :=
  ⟨H, e.x / 2 ^ (e.h - H).toNat, e.y / 2 ^ (e.h - H).toNat, V, e.f / 2 ^ (e.v - V).toNat⟩

open C03 (wf)
open C05 (anc)

theorem ediv_eq_iff_block (a x n : Int) (hn : 0 < n) : a / n = x ↔ x * n ≤ a ∧ a ≤ x * n + n - 1 := by
  rw [Int.ediv_eq_iff_of_pos hn]
  omega

/-! ### `axisMeet` between integer zooms: the finer index floor-divided to the coarser zoom is the coarser index -/

theorem axisMeet_toNat_le {z Z : Int} (hz : 0 ≤ z) (h : z ≤ Z) (i j : Int) :
    axisMeet z.toNat Z.toNat i j ↔ j / 2 ^ (Z - z).toNat = i := by
  obtain ⟨n, rfl⟩ := Int.eq_ofNat_of_zero_le hz
  rw [axisMeet, Int.toNat_natCast, if_pos ((Int.le_toNat (Int.le_trans hz h)).mpr h), Int.toNat_sub']

theorem axisMeet_toNat_ge {z Z : Int} (hZ : 0 ≤ Z) (h : Z ≤ z) (i j : Int) :
    axisMeet z.toNat Z.toNat i j ↔ i / 2 ^ (z - Z).toNat = j := by
  rw [axisMeet_symm, axisMeet_toNat_le hZ h]

theorem ediv_pow_range (a : Int) (z d : Nat) : (0 ≤ a / 2 ^ d ∧ a / 2 ^ d < 2 ^ z) ↔ (0 ≤ a ∧ a < 2 ^ (z + d)) := by
  rw [Int.pow_add, Int.ediv_nonneg_iff_of_pos (two_pow_pos d), Int.ediv_lt_iff_lt_mul (two_pow_pos d)]

theorem axisMeet_range {z Z : Nat} {i j : Int} (hi : 0 ≤ i ∧ i < 2 ^ z) (h : axisMeet z Z i j) : 0 ≤ j ∧ j < 2 ^ Z := by
  unfold axisMeet at h
  split at h
  · obtain ⟨d, rfl⟩ := Nat.exists_eq_add_of_le ‹z ≤ Z›
    rw [Nat.add_sub_cancel_left] at h
    exact (ediv_pow_range j z d).mp (h ▸ hi)
  · obtain ⟨d, rfl⟩ := Nat.exists_eq_add_of_le (Nat.le_of_not_le ‹¬ z ≤ Z›)
    rw [Nat.add_sub_cancel_left] at h
    exact h ▸ (ediv_pow_range i Z d).mpr hi

/-! ### the index ranges, raising (`zi ≤ zo`) and lowering (`zo ≤ zi`) the zoom -/

theorem vZoomMinMax_in (zi f zo : Int) (h : zi ≤ zo) :
    vZoomMinMax zi f zo = (f * 2 ^ (zo - zi).toNat, f * 2 ^ (zo - zi).toNat + 2 ^ (zo - zi).toNat - 1) := by
  unfold vZoomMinMax
  by_cases h0 : zo - zi > 0
  · simp only [h0, if_true, pow2_natCast, show (zo - zi).natAbs = (zo - zi).toNat by omega]
  · simp [show zo - zi = 0 by omega]

theorem vZoomMinMax_out (zi f zo : Int) (h : zo ≤ zi) :
    vZoomMinMax zi f zo = (f / 2 ^ (zi - zo).toNat, f / 2 ^ (zi - zo).toNat) := by
  unfold vZoomMinMax
  by_cases h0 : zo - zi < 0
  · simp only [show ¬ zo - zi > 0 by omega, h0, if_true, if_false, arithShift_neg _ _ h0,
      show (-(zo - zi)).toNat = (zi - zo).toNat by omega]
  · simp [show zo - zi = 0 by omega, show zi - zo = 0 by omega]

theorem hZoomMinMax_in (zi x y zo : Int) (h : zi ≤ zo) :
    hZoomMinMax zi x y zo = (x * 2 ^ (zo - zi).toNat, y * 2 ^ (zo - zi).toNat,
      x * 2 ^ (zo - zi).toNat + 2 ^ (zo - zi).toNat - 1, y * 2 ^ (zo - zi).toNat + 2 ^ (zo - zi).toNat - 1) := by
  unfold hZoomMinMax
  by_cases h0 : zo - zi > 0
  · simp only [h0, if_true, pow2_natCast, show (zo - zi).natAbs = (zo - zi).toNat by omega]
  · simp [show zo - zi = 0 by omega]

/-- Go's truncating `/` agrees with floor division because horizontal indices are never negative -/
theorem hZoomMinMax_out (zi x y zo : Int) (h : zo ≤ zi) (hx : 0 ≤ x) (hy : 0 ≤ y) :
    hZoomMinMax zi x y zo = (x / 2 ^ (zi - zo).toNat, y / 2 ^ (zi - zo).toNat,
      x / 2 ^ (zi - zo).toNat, y / 2 ^ (zi - zo).toNat) := by
  unfold hZoomMinMax
  by_cases h0 : zo - zi < 0
  · simp only [show ¬ zo - zi > 0 by omega, h0, if_true, if_false, pow2_natCast, Int.tdiv_eq_ediv_of_nonneg hx,
      Int.tdiv_eq_ediv_of_nonneg hy, show (zo - zi).natAbs = (zi - zo).toNat by omega]
  · simp [show zo - zi = 0 by omega, show zi - zo = 0 by omega]

theorem vZoomIdx_eq (zi f zo : Int) : vZoomIdx zi f zo = irange (vZoomMinMax zi f zo).1 (vZoomMinMax zi f zo).2 := rfl

theorem hZoomIdx_eq (zi x y zo : Int) :
    hZoomIdx zi x y zo = (irange (hZoomMinMax zi x y zo).2.1 (hZoomMinMax zi x y zo).2.2.2).flatMap fun yy =>
      (irange (hZoomMinMax zi x y zo).1 (hZoomMinMax zi x y zo).2.2.1).map fun xx => (xx, yy) := rfl

theorem vZoomIdx_out (zi f zo : Int) (h : zo ≤ zi) : vZoomIdx zi f zo = [f / 2 ^ (zi - zo).toNat] := by
  rw [vZoomIdx_eq, vZoomMinMax_out _ _ _ h, irange_self]

theorem hZoomIdx_out (zi x y zo : Int) (h : zo ≤ zi) (hx : 0 ≤ x) (hy : 0 ≤ y) :
    hZoomIdx zi x y zo = [(x / 2 ^ (zi - zo).toNat, y / 2 ^ (zi - zo).toNat)] := by
  rw [hZoomIdx_eq, hZoomMinMax_out _ _ _ _ h hx hy]; simp [irange_self]

theorem vZoomIdx_self (z f : Int) : vZoomIdx z f z = [f] := by
  simp [vZoomIdx_out _ _ _ (Int.le_refl z)]

theorem hZoomIdx_self (z x y : Int) : hZoomIdx z x y z = [(x, y)] := by
  simp [hZoomIdx_eq, hZoomMinMax_in _ _ _ _ (Int.le_refl z), irange_self]

theorem length_irange_block (i : Int) (d : Nat) : (irange (i * 2 ^ d) (i * 2 ^ d + 2 ^ d - 1)).length = 2 ^ d := by
  rw [length_irange, show i * 2 ^ d + 2 ^ d - 1 + 1 - i * 2 ^ d = ((2 ^ d : Nat) : Int) by push_cast; omega]
  exact Int.toNat_natCast _

theorem length_vZoomIdx_in (zi f : Int) (d : Nat) : (vZoomIdx zi f (zi + d)).length = 2 ^ d := by
  rw [vZoomIdx_eq, vZoomMinMax_in _ _ _ (by omega), add_sub_cancel_left, Int.toNat_natCast, length_irange_block]

theorem length_hZoomIdx_in (zi x y : Int) (d : Nat) : (hZoomIdx zi x y (zi + d)).length = 4 ^ d := by
  rw [hZoomIdx_eq, hZoomMinMax_in _ _ _ _ (by omega), add_sub_cancel_left, Int.toNat_natCast, length_flatMap_map,
    length_irange_block, length_irange_block, ← Nat.mul_pow]

theorem length_zoomOne_in (e : Ext) (dh dv : Nat) : (zoomOne (e.h + dh) (e.v + dv) e).length = 4 ^ dh * 2 ^ dv := by
  rw [zoomOne, length_flatMap_map, length_hZoomIdx_in, length_vZoomIdx_in]

/-! ### membership: exactly the indices whose cell meets the input cell -/

theorem mem_irange_block {z Z : Int} (hz : 0 ≤ z) (h : z ≤ Z) (i a : Int) :
    a ∈ irange (i * 2 ^ (Z - z).toNat) (i * 2 ^ (Z - z).toNat + 2 ^ (Z - z).toNat - 1) ↔ axisMeet z.toNat Z.toNat i a := by
  rw [mem_irange, axisMeet_toNat_le hz h]
  exact (ediv_eq_iff_block a i _ (two_pow_pos _)).symm

theorem mem_vZoomIdx {zi zo : Int} (hzi : 0 ≤ zi) (hzo : 0 ≤ zo) (f a : Int) :
    a ∈ vZoomIdx zi f zo ↔ axisMeet zi.toNat zo.toNat f a := by
  rcases Int.le_total zi zo with h | h
  · rw [vZoomIdx_eq, vZoomMinMax_in _ _ _ h]
    exact mem_irange_block hzi h f a
  · rw [vZoomIdx_out _ _ _ h, List.mem_singleton, axisMeet_toNat_ge hzo h]
    exact eq_comm

theorem mem_hZoomIdx_range (zi x y zo : Int) (p : Int × Int) :
    p ∈ hZoomIdx zi x y zo ↔ p.1 ∈ irange (hZoomMinMax zi x y zo).1 (hZoomMinMax zi x y zo).2.2.1 ∧
      p.2 ∈ irange (hZoomMinMax zi x y zo).2.1 (hZoomMinMax zi x y zo).2.2.2 := by
  simp only [hZoomIdx_eq, List.mem_flatMap, List.mem_map]
  constructor
  · rintro ⟨_, hb, _, ha, rfl⟩; exact ⟨ha, hb⟩
  · rintro ⟨ha, hb⟩; exact ⟨p.2, hb, p.1, ha, rfl⟩

theorem mem_hZoomIdx {zi zo x y : Int} (hzi : 0 ≤ zi) (hzo : 0 ≤ zo) (hx : 0 ≤ x) (hy : 0 ≤ y) (p : Int × Int) :
    p ∈ hZoomIdx zi x y zo ↔ axisMeet zi.toNat zo.toNat x p.1 ∧ axisMeet zi.toNat zo.toNat y p.2 := by
  rcases Int.le_total zi zo with h | h
  · rw [mem_hZoomIdx_range, hZoomMinMax_in _ _ _ _ h]
    exact and_congr (mem_irange_block hzi h x p.1) (mem_irange_block hzi h y p.2)
  · rw [hZoomIdx_out _ _ _ _ h hx hy, List.mem_singleton, axisMeet_toNat_ge hzo h, axisMeet_toNat_ge hzo h,
      Prod.ext_iff]
    exact and_congr eq_comm eq_comm

theorem mem_zoomOne_idx (H V : Int) (e o : Ext) :
    o ∈ zoomOne H V e ↔ o.h = H ∧ o.v = V ∧ (o.x, o.y) ∈ hZoomIdx e.h e.x e.y H ∧ o.f ∈ vZoomIdx e.v e.f V := by
  simp only [zoomOne, List.mem_flatMap, List.mem_map]
  constructor
  · rintro ⟨p, hp, f, hf, rfl⟩; exact ⟨rfl, rfl, hp, hf⟩
  · rintro ⟨rfl, rfl, hp, hf⟩; exact ⟨(o.x, o.y), hp, o.f, hf, rfl⟩

theorem mem_zoomOne {H V : Int} {e : Ext} (hH : 0 ≤ H) (hV : 0 ≤ V) (he : wf e) (o : Ext) :
    o ∈ zoomOne H V e ↔ o.h = H ∧ o.v = V ∧ meets e o := by
  rw [mem_zoomOne_idx, mem_hZoomIdx he.1 hH he.2.2.1 he.2.2.2, mem_vZoomIdx he.2.1 hV, and_assoc]
  exact and_congr_right fun h => and_congr_right fun v => by rw [meets, h, v]

theorem mem_zoomOne_in {H V : Int} {e : Ext} (hH : e.h ≤ H) (hV : e.v ≤ V) (he : wf e) (o : Ext) :
    o ∈ zoomOne H V e ↔ o.h = H ∧ o.v = V ∧ meets e o :=
  mem_zoomOne (Int.le_trans he.1 hH) (Int.le_trans he.2.1 hV) he o

theorem vZoomIdx_ne_nil (zi f zo : Int) : vZoomIdx zi f zo ≠ [] := by
  have := pow2_pos ((zo - zi).natAbs : Int) (Int.natCast_nonneg _)
  rw [vZoomIdx_eq]
  refine irange_ne_nil ?_
  unfold vZoomMinMax
  simp only []
  split <;> [skip; split] <;> simp only [] <;> omega

theorem hZoomIdx_ne_nil (zi x y zo : Int) : hZoomIdx zi x y zo ≠ [] := by
  have := pow2_pos ((zo - zi).natAbs : Int) (Int.natCast_nonneg _)
  have h : (hZoomMinMax zi x y zo).1 ≤ (hZoomMinMax zi x y zo).2.2.1 ∧
      (hZoomMinMax zi x y zo).2.1 ≤ (hZoomMinMax zi x y zo).2.2.2 := by
    unfold hZoomMinMax
    simp only []
    split <;> [skip; split] <;> simp only [] <;> omega
  rw [hZoomIdx_eq]
  exact flatMap_map_ne_nil _ (irange_ne_nil h.2) (irange_ne_nil h.1)

theorem zoomOne_ne_nil (H V : Int) (e : Ext) : zoomOne H V e ≠ [] :=
  flatMap_map_ne_nil _ (hZoomIdx_ne_nil e.h e.x e.y H) (vZoomIdx_ne_nil e.v e.f V)

theorem hZoomIdx_nodup (zi x y zo : Int) : (hZoomIdx zi x y zo).Nodup :=
  nodup_flatMap_map_inj (fun yy xx => (xx, yy)) (nodup_irange _ _) (nodup_irange _ _)
    (fun _ _ _ _ h => ⟨(Prod.mk.inj h).2, (Prod.mk.inj h).1⟩)

theorem vZoomIdx_nodup (zi f zo : Int) : (vZoomIdx zi f zo).Nodup := nodup_irange _ _

theorem zoomOne_nodup (H V : Int) (e : Ext) : (zoomOne H V e).Nodup :=
  nodup_flatMap_map_inj (fun (p : Int × Int) f' => (⟨H, p.1, p.2, V, f'⟩ : Ext)) (hZoomIdx_nodup _ _ _ _)
    (vZoomIdx_nodup _ _ _)
    (fun _ _ _ _ h => ⟨Prod.ext (Ext.mk.inj h).2.1 (Ext.mk.inj h).2.2.1, (Ext.mk.inj h).2.2.2.2⟩)

theorem zoomOne_self (e : Ext) : zoomOne e.h e.v e = [e] := by
  simp [zoomOne, hZoomIdx_self, vZoomIdx_self]

theorem mem_changeExtE (es : List Ext) (H V : Int) (o : Ext) : o ∈ changeExtE es H V ↔ ∃ e ∈ es, o ∈ zoomOne H V e := by
  rw [changeExtE, mem_dedup, List.mem_flatMap]

theorem changeExtE_single (e : Ext) (H V : Int) : changeExtE [e] H V = zoomOne H V e := by
  rw [changeExtE, List.flatMap_singleton, dedup_eq_self_of_nodup (zoomOne_nodup H V e)]

theorem mem_changeExtE_self (l : List Ext) (h v : Int) (hl : ∀ e ∈ l, e.h = h ∧ e.v = v) (o : Ext) :
    o ∈ changeExtE l h v ↔ o ∈ l := by
  have hz : ∀ e ∈ l, zoomOne h v e = [e] := fun e he => by obtain ⟨rfl, rfl⟩ := hl e he; exact zoomOne_self e
  rw [changeExtE, mem_dedup, List.flatMap_congr hz]
  simp

theorem zoomOne_out (e : Ext) (H V : Int) (hH : H ≤ e.h) (hV : V ≤ e.v) (hx : 0 ≤ e.x) (hy : 0 ≤ e.y) :
    zoomOne H V e = [anc e H V] := by
  simp [zoomOne, hZoomIdx_out _ _ _ _ hH hx hy, vZoomIdx_out _ _ _ hV, anc]

theorem anc_self (e : Ext) : anc e e.h e.v = e := by simp [anc]

theorem anc_anc (e : Ext) (H V : Int) : anc (anc e H V) H V = anc e H V := anc_self _

theorem anc_wf {e : Ext} (he : wf e) {H V : Int} (hH0 : 0 ≤ H) (hV0 : 0 ≤ V) : wf (anc e H V) :=
  ⟨hH0, hV0, Int.ediv_nonneg he.2.2.1 (Int.le_of_lt (two_pow_pos _)), Int.ediv_nonneg he.2.2.2 (Int.le_of_lt (two_pow_pos _))⟩

theorem meets_iff_anc (e o : Ext) (hh : 0 ≤ e.h) (hv : 0 ≤ e.v) (hH : e.h ≤ o.h) (hV : e.v ≤ o.v) :
    meets e o ↔ anc o e.h e.v = e := by
  obtain ⟨h, x, y, v, f⟩ := e
  simp only [meets, axisMeet_toNat_le hh hH, axisMeet_toNat_le hv hV, anc, Ext.mk.injEq, true_and]

theorem region_subset_of_le {e o : Ext} (hh : e.h ≤ o.h) (hv : e.v ≤ o.v) (hm : meets e o) : region o ⊆ region e :=
  region_subset_of_meets e o (Int.toNat_le_toNat hh) (Int.toNat_le_toNat hv) hm

theorem region_subset_anc {e : Ext} {H V : Int} (hH0 : 0 ≤ H) (hV0 : 0 ≤ V) (hH : H ≤ e.h) (hV : V ≤ e.v) :
    region e ⊆ region (anc e H V) :=
  region_subset_of_le hH hV ((meets_iff_anc (anc e H V) e hH0 hV0 hH hV).mpr rfl)

/-- covering a voxel, decided on the cells of any zoom pair at least as fine as everything involved -/
theorem C04.subset_iff_units (k : Ext) (L : List Ext) (mH mV : Int)
    (hk : 0 ≤ k.h ∧ 0 ≤ k.v ∧ k.h ≤ mH ∧ k.v ≤ mV) (hL : ∀ e ∈ L, 0 ≤ e.h ∧ 0 ≤ e.v ∧ e.h ≤ mH ∧ e.v ≤ mV) :
    region k ⊆ regionL L ↔ ∀ u : Ext, u.h = mH → u.v = mV → meets k u → ∃ e ∈ L, meets e u := by
  constructor
  · rintro hsub u rfl rfl hm
    obtain ⟨p, hp⟩ := region_nonempty u
    obtain ⟨e, he, hpe⟩ := hsub (region_subset_of_le hk.2.2.1 hk.2.2.2 hm hp)
    exact ⟨e, he, (meets_iff e u).mp ⟨p, hpe, hp⟩⟩
  · intro hu p hp
    obtain ⟨e, he, hm⟩ := hu (voxelAt mH mV p) rfl rfl (meets_voxelAt mH mV hp)
    exact ⟨e, he, region_subset_of_le (hL e he).2.2.1 (hL e he).2.2.2 hm (mem_voxelAt mH mV p)⟩

end SpatialId
