/-
Facts about the software binary64 over core Lean only: the integer rounding `rne` that `rnd` is built from and its
arithmetic, rounding is the identity on values that fit, signs are preserved, bit lengths.
-/
import SpatialId.F64
import SpatialId.Lemmas.Core
namespace SpatialId.F64

/-- representable as written: at most 53 significant bits and an exponent not below the subnormal one -/
def Rep (x : Dy) : Prop := bitLen x.m.natAbs ≤ 53 ∧ -1074 ≤ x.e

/-- the exponent of the last place `rnd m e` rounds to (for `m ≠ 0`) -/
def ulpExp (m e : Int) : Int := max (e + (bitLen m.natAbs : Int) - 53) (-1074)

/-- `a / 2^sh` rounded to the nearest natural, ties to even: the mantissa `rnd` keeps when it drops `sh` bits -/
def rne (a sh : Nat) : Nat :=
  let fl := a >>> sh
  let rem := a - (fl <<< sh)
  let half := 1 <<< (sh - 1)
  if rem > half ∨ (rem = half ∧ fl % 2 = 1) then fl + 1 else fl

theorem rnd_eq (m e : Int) : rnd m e =
    if m = 0 then ⟨0, 0⟩ else if ulpExp m e ≤ e then ⟨m, e⟩ else
      ⟨if m < 0 then -(rne m.natAbs (ulpExp m e - e).toNat : Int) else rne m.natAbs (ulpExp m e - e).toNat, ulpExp m e⟩ :=
  rfl

/-- `rne` in arithmetic: the remainder is compared with half of `2^sh` after doubling, so `sh = 0` is no special case -/
theorem rne_eq (a sh : Nat) : rne a sh =
    if 2 ^ sh < 2 * (a % 2 ^ sh) ∨ (2 * (a % 2 ^ sh) = 2 ^ sh ∧ a / 2 ^ sh % 2 = 1) then a / 2 ^ sh + 1 else a / 2 ^ sh := by
  have hrem : a - a / 2 ^ sh * 2 ^ sh = a % 2 ^ sh := by
    have := Nat.div_add_mod a (2 ^ sh); rw [Nat.mul_comm] at this; omega
  simp only [rne, Nat.shiftRight_eq_div_pow, Nat.shiftLeft_eq, Nat.one_mul, hrem]
  cases sh with
  | zero => simp [Nat.mod_one]
  | succ n =>
    simp only [Nat.add_sub_cancel, Nat.pow_succ]
    exact ite_congr (propext (by omega)) (fun _ => rfl) (fun _ => rfl)

theorem rne_zero_right (a : Nat) : rne a 0 = a := by simp [rne_eq, Nat.mod_one]

theorem rne_shift (a sh k : Nat) : rne (a * 2 ^ k) (sh + k) = rne a sh := by
  have hk := Nat.two_pow_pos k
  simp only [rne_eq, Nat.pow_add, Nat.mul_div_mul_right _ _ hk, Nat.mul_mod_mul_right, ← Nat.mul_assoc,
    Nat.mul_lt_mul_right hk, Nat.mul_right_cancel_iff hk]

theorem rne_exact (a sh : Nat) : rne (a * 2 ^ sh) sh = a := by
  have := rne_shift a 0 sh
  rwa [Nat.zero_add, rne_zero_right] at this

/-- truncated subtraction covers both cases: `s ≤ k` (nothing is dropped) and `k ≤ s` (`rne_shift`) -/
theorem rne_mul_pow (a k s : Nat) : rne (a * 2 ^ k) s * 2 ^ s = rne a (s - k) * 2 ^ (s - k) * 2 ^ k := by
  rcases Nat.le_total s k with h | h
  · obtain ⟨d, rfl⟩ := Nat.exists_eq_add_of_le h
    rw [Nat.sub_eq_zero_of_le h, rne_zero_right, Nat.pow_add, Nat.mul_comm (2 ^ s), ← Nat.mul_assoc, rne_exact,
      Nat.pow_zero, Nat.mul_one, Nat.mul_assoc]
  · obtain ⟨d, rfl⟩ := Nat.exists_eq_add_of_le h
    rw [Nat.add_comm k d, rne_shift, Nat.add_sub_cancel, Nat.pow_add, Nat.mul_assoc]

theorem rne_spec (a sh : Nat) :
    2 * (rne a sh * 2 ^ sh) ≤ 2 * a + 2 ^ sh ∧ 2 * a ≤ 2 * (rne a sh * 2 ^ sh) + 2 ^ sh := by
  have hdm := Nat.div_add_mod a (2 ^ sh)
  rw [Nat.mul_comm] at hdm
  rw [rne_eq]
  split
  · rw [Nat.add_mul]; omega
  · omega

/-- `≤`, not `<`: the carry out of the top bit gives `2^n` itself -/
theorem rne_le (a sh n : Nat) (h : a < 2 ^ (n + sh)) : rne a sh ≤ 2 ^ n := by
  have : a / 2 ^ sh < 2 ^ n := by rwa [Nat.div_lt_iff_lt_mul (Nat.two_pow_pos _), ← Nat.pow_add]
  rw [rne_eq]
  split <;> omega

theorem rnd_zero (e : Int) : rnd 0 e = ⟨0, 0⟩ := rfl

theorem rnd_of_le (m e : Int) (h0 : m ≠ 0) (h : ulpExp m e ≤ e) : rnd m e = ⟨m, e⟩ := by
  rw [rnd_eq, if_neg h0, if_pos h]

theorem ulpExp_le_of_fits {m e : Int} (h1 : bitLen m.natAbs ≤ 53) (h2 : -1074 ≤ e) : ulpExp m e ≤ e := by
  unfold ulpExp; omega

theorem rnd_of_fits (m e : Int) (h0 : m ≠ 0) (h1 : bitLen m.natAbs ≤ 53) (h2 : -1074 ≤ e) : rnd m e = ⟨m, e⟩ :=
  rnd_of_le m e h0 (ulpExp_le_of_fits h1 h2)

theorem add_comm' (x y : Dy) : add x y = add y x := by
  unfold add
  dsimp only
  rw [Int.min_comm, Int.add_comm]

theorem add_of_le (m n e e' : Int) (h : e ≤ e') : add ⟨m, e⟩ ⟨n, e'⟩ = rnd (m + n * 2 ^ (e' - e).toNat) e := by
  simp only [add, Int.min_eq_left h, Int.sub_self, Int.toNat_zero, Int.pow_zero, Int.mul_one]

theorem add_same_exp (m n e : Int) : add ⟨m, e⟩ ⟨n, e⟩ = rnd (m + n) e := by
  rw [add_of_le m n e e (Int.le_refl e), Int.sub_self, Int.toNat_zero, Int.pow_zero, Int.mul_one]

theorem floorInt_zero (e : Int) : floorInt ⟨0, e⟩ = 0 := by
  unfold floorInt; split <;> simp

theorem arithShift_eq_floorInt (i s : Int) : arithShift i s = floorInt ⟨i, s⟩ := by
  by_cases h : 0 ≤ s
  · rw [arithShift_nonneg i s h, floorInt, if_pos h]
  · rw [arithShift_neg i s (by omega), floorInt, if_neg h]

theorem floorInt_scale (x : Dy) (k : Int) (hr : Rep x) (hk : -1074 ≤ x.e + k) :
    floorInt (scale x k) = floorInt ⟨x.m, x.e + k⟩ := by
  by_cases h0 : x.m = 0
  · rw [scale, h0, rnd_zero, floorInt_zero, floorInt_zero]
  · rw [scale, rnd_of_fits x.m _ h0 hr.1 hk]

theorem floorInt_nonneg {x : Dy} (h : 0 ≤ x.m) : 0 ≤ floorInt x := by
  unfold floorInt
  split
  · exact Int.mul_nonneg h (Int.le_of_lt (two_pow_pos _))
  · exact Int.ediv_nonneg h (Int.le_of_lt (two_pow_pos _))

theorem floorInt_of_neg {x : Dy} (h : x.m < 0) : floorInt x ≤ -1 := by
  unfold floorInt
  split
  · have hp := two_pow_pos x.e.toNat
    have : x.m * 2 ^ x.e.toNat ≤ (-1) * 2 ^ x.e.toNat := Int.mul_le_mul_of_nonneg_right (by omega) (Int.le_of_lt hp)
    omega
  · have hp := two_pow_pos (-x.e).toNat
    have := Int.ediv_lt_of_lt_mul hp (show x.m < 0 * 2 ^ (-x.e).toNat by omega)
    omega

theorem rnd_nonneg (m e : Int) (h : 0 ≤ m) : 0 ≤ (rnd m e).m := by
  rw [rnd_eq]
  split
  · exact Int.le_refl 0
  split
  · exact h
  · rw [if_neg (by omega)]; exact Int.natCast_nonneg _

theorem scale_nonneg (x : Dy) (k : Int) (h : 0 ≤ x.m) : 0 ≤ (scale x k).m := rnd_nonneg _ _ h

theorem div_nonneg (x y : Dy) (hx : 0 ≤ x.m) (hy : 0 < y.m) : 0 ≤ (div x y).m := by
  unfold div
  split
  · simp
  · simp only []
    have h1 : ¬ x.m < 0 := by omega
    have h2 : ¬ y.m < 0 := by omega
    apply rnd_nonneg
    simp only [h1, h2, decide_false, bne_self_eq_false, Bool.false_eq_true, if_false, Int.one_mul]
    exact Int.natCast_nonneg _

theorem bitLen_le_iff (a n : Nat) : bitLen a ≤ n ↔ a < 2 ^ n := by
  unfold bitLen
  split
  · rename_i h; subst h; simp [Nat.two_pow_pos]
  · rename_i h; rw [Nat.add_one_le_iff, Nat.log2_lt h]

theorem bitLen_le_of_lt (a n : Nat) (h : a < 2 ^ n) : bitLen a ≤ n := (bitLen_le_iff a n).mpr h

theorem rnd_of_lt (m e : Int) (h0 : m ≠ 0) (h : m.natAbs < 2 ^ 53) (he : -1074 ≤ e) : rnd m e = ⟨m, e⟩ :=
  rnd_of_fits m e h0 (bitLen_le_of_lt _ _ h) he

theorem lt_of_bitLen_le (a n : Nat) (h : bitLen a ≤ n) : a < 2 ^ n := (bitLen_le_iff a n).mp h

theorem lt_two_pow_bitLen (a : Nat) : a < 2 ^ bitLen a := lt_of_bitLen_le a _ (Nat.le_refl _)

theorem bitLen_pos {a : Nat} (h : 0 < a) : 0 < bitLen a :=
  Nat.pos_of_ne_zero fun h0 => by have := lt_of_bitLen_le a 0 (by omega); omega

theorem two_pow_bitLen_pred_le (a : Nat) (h : 0 < a) : 2 ^ (bitLen a - 1) ≤ a :=
  Nat.le_of_not_lt fun h' => by have := bitLen_le_of_lt _ _ h'; have := bitLen_pos h; omega

theorem bitLen_mul_pow (a k : Nat) (ha : 0 < a) : bitLen (a * 2 ^ k) = bitLen a + k := by
  have hk := Nat.two_pow_pos k
  apply Nat.le_antisymm
  · apply bitLen_le_of_lt
    rw [Nat.pow_add]
    exact Nat.mul_lt_mul_of_pos_right (lt_two_pow_bitLen a) hk
  · -- one bit less would push `a` below its own leading bit
    apply Nat.le_of_not_lt
    intro h
    have h1 := lt_of_bitLen_le (a * 2 ^ k) (bitLen a - 1 + k) (by have := bitLen_pos ha; omega)
    rw [Nat.pow_add] at h1
    exact Nat.not_lt.mpr (two_pow_bitLen_pred_le a ha) (Nat.lt_of_mul_lt_mul_right h1)

/-- the last place depends on the value only -/
theorem ulpExp_shift (m e : Int) (k : Nat) (h0 : m ≠ 0) : ulpExp (m * 2 ^ k) (e - k) = ulpExp m e := by
  unfold ulpExp
  rw [Int.natAbs_mul, Int.natAbs_pow, show (2 : Int).natAbs = 2 from rfl, bitLen_mul_pow _ _ (Int.natAbs_pos.mpr h0)]
  omega

theorem ofBits_rep (b : Nat) (x : Dy) (h : ofBits b = some x) : Rep x := by
  unfold ofBits at h
  simp only [] at h
  split at h
  · cases h
  · simp only [Option.some.injEq] at h
    subst h
    have key : ∀ (s mm : Nat), (Int.natAbs (if s % 2 = 1 then -(mm : Int) else (mm : Int))) = mm := by
      intro s mm; split <;> simp
    unfold Rep
    simp only [key]
    constructor
    · apply bitLen_le_of_lt
      split <;> omega
    · split <;> omega

end SpatialId.F64
