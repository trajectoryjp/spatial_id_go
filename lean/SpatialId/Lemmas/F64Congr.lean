/-
The software binary64 works on pairs ⟨m, e⟩ without a canonical form: 3·2^1 and 6·2^0 are different pairs with the same
value. The representation never matters: rounding is a function of the VALUE of its argument (`rnd_val_congr`, in
`Lemmas/F64Val`), hence so is every arithmetic operation (`add_val_congr`, `mul_val_congr`, `sub_val_congr`,
`scale_val_congr`, here), and so are the comparisons (`Lemmas/F64Order`: `lt_iff_val`, `le_iff_val`, `eq_iff_val`). Hence the
model may be read as arithmetic on binary64 values, as the hardware does it.
-/
import SpatialId.Lemmas.F64Val
namespace SpatialId.F64

theorem add_val_congr (x x' y y' : Dy) (hx : val x = val x') (hy : val y = val y') : val (add x y) = val (add x' y') :=
  rnd_val_congr _ _ _ _ (by rw [add_aligned_val, add_aligned_val, hx, hy])

theorem neg_val_congr (x x' : Dy) (hx : val x = val x') : val (neg x) = val (neg x') := by rw [neg_val, neg_val, hx]

theorem sub_val_congr (x x' y y' : Dy) (hx : val x = val x') (hy : val y = val y') : val (sub x y) = val (sub x' y') :=
  add_val_congr _ _ _ _ hx (neg_val_congr _ _ hy)

theorem mul_val_congr (x x' y y' : Dy) (hx : val x = val x') (hy : val y = val y') : val (mul x y) = val (mul x' y') :=
  rnd_val_congr _ _ _ _ (by rw [mul_aligned_val, mul_aligned_val, hx, hy])

theorem scale_val_congr (x x' : Dy) (k : Int) (hx : val x = val x') : val (scale x k) = val (scale x' k) :=
  rnd_val_congr _ _ _ _ (by rw [scale_aligned_val, scale_aligned_val, hx])

end SpatialId.F64
