/-
Value-level exactness of the software binary64: if the exact result of an operation is representable, the operation returns
it (as a rational value — the representation `⟨m, e⟩` may differ). This is the IEEE 754 "exact if representable" rule, proved
for the definitions of `SpatialId/F64.lean`. It rests on the value `rnd` returns (`rnd_val`) and on rounding being a function
of the value of its argument (`rnd_val_congr`): a representable value is the value of a pair that `rnd` leaves alone.
-/
import SpatialId.Lemmas.F64
import SpatialId.Lemmas.F64Order
import Mathlib.Tactic.Push
import Mathlib.Algebra.Order.Floor.Ring
import Mathlib.Data.Rat.Floor
namespace SpatialId.F64

/-- the rational `q` is a binary64 value: `q = m · 2^e` with at most 53 significant bits and `e ≥ -1074` -/
def RepVal (q : ℚ) : Prop := ∃ m e : Int, bitLen m.natAbs ≤ 53 ∧ -1074 ≤ e ∧ q = (m : ℚ) * (2 : ℚ) ^ e

theorem int_of_dyadic_eq (m m' e e' : Int) (hle : e ≤ e') (h : (m : ℚ) * (2 : ℚ) ^ e = (m' : ℚ) * (2 : ℚ) ^ e') :
    m = m' * 2 ^ (e' - e).toNat := by
  have := aligned_val ⟨m', e'⟩ hle
  rw [val_mk, ← h] at this
  exact_mod_cast (mul_right_cancel₀ (two_zpow_pos e).ne' this).symm

theorem cast_sign_mul_natAbs (m : Int) : (m.sign : ℚ) * (m.natAbs : ℚ) = m := by
  rw [← Int.cast_natCast (R := ℚ) m.natAbs, ← Int.cast_mul, Int.sign_mul_natAbs]

theorem natAbs_cast (m : Int) : (m.natAbs : ℚ) = |(m : ℚ)| := by rw [Nat.cast_natAbs, Int.cast_abs]

/-! ### the value `rnd` returns depends only on the value it is given -/

/-- the value `rnd` returns: the sign, the mantissa rounded at the last place, the old exponent -/
theorem rnd_val (m e : Int) :
    val (rnd m e) =
      (m.sign : ℚ) * ((rne m.natAbs (ulpExp m e - e).toNat * 2 ^ (ulpExp m e - e).toNat : Nat) : ℚ) * (2 : ℚ) ^ e := by
  rw [rnd_eq]
  split
  · rename_i h0; subst h0; simp [val]
  split
  · rename_i h
    rw [Int.toNat_eq_zero.mpr (by omega), rne_zero_right, pow_zero, mul_one, cast_sign_mul_natAbs, val_mk]
  · rename_i h0 h
    have hs : ∀ r : Int, (if m < 0 then -r else r) = m.sign * r := by
      intro r
      rcases Int.lt_or_gt_of_ne h0 with hm | hm
      · rw [if_pos hm, Int.sign_eq_neg_one_of_neg hm, Int.neg_one_mul]
      · rw [if_neg (by omega), Int.sign_eq_one_of_pos hm, Int.one_mul]
    rw [val_mk, hs]
    push_cast
    rw [mul_assoc, mul_assoc, mul_assoc, ← zpow_natCast, ← zpow_add₀ two_ne, Int.toNat_of_nonneg (by omega), sub_add_cancel]

theorem rnd_val_of_le {m e : Int} (h : ulpExp m e ≤ e) : val (rnd m e) = (m : ℚ) * (2 : ℚ) ^ e := by
  rw [rnd_val, Int.toNat_eq_zero.mpr (by omega), rne_zero_right, pow_zero, mul_one, cast_sign_mul_natAbs]

theorem rnd_shift_val (m e : Int) (k : Nat) : val (rnd (m * 2 ^ k) (e - k)) = val (rnd m e) := by
  by_cases h0 : m = 0
  · subst h0; rw [Int.zero_mul, rnd_zero, rnd_zero]
  have hs : (m * 2 ^ k).sign = m.sign := by rw [Int.sign_mul, Int.sign_eq_one_of_pos (two_pow_pos k), Int.mul_one]
  have ha : (m * 2 ^ k).natAbs = m.natAbs * 2 ^ k := by rw [Int.natAbs_mul, Int.natAbs_pow]; rfl
  have hsh : (ulpExp m e - (e - k)).toNat - k = (ulpExp m e - e).toNat := by omega
  rw [rnd_val, rnd_val, ulpExp_shift m e k h0, hs, ha, rne_mul_pow, hsh, Nat.cast_mul _ (2 ^ k), Nat.cast_pow,
    Nat.cast_ofNat, mul_assoc, mul_assoc, mul_assoc, ← zpow_natCast, ← zpow_add₀ two_ne, add_sub_cancel]

/-- rounding is a function of the value -/
theorem rnd_val_congr (m e m' e' : Int) (h : (m : ℚ) * (2 : ℚ) ^ e = (m' : ℚ) * (2 : ℚ) ^ e') :
    val (rnd m e) = val (rnd m' e') := by
  wlog hle : e ≤ e' generalizing m e m' e'
  · exact (this m' e' m e h.symm (le_of_not_ge hle)).symm
  have hi := int_of_dyadic_eq m m' e e' hle h
  have := rnd_shift_val m' e' (e' - e).toNat
  rwa [← hi, show e' - ((e' - e).toNat : Int) = e by omega] at this

theorem rnd_val_eq {m e : Int} {q : ℚ} (hq : (m : ℚ) * (2 : ℚ) ^ e = q) (hr : RepVal q) : val (rnd m e) = q := by
  obtain ⟨m', e', hb, he', rfl⟩ := hr
  rw [rnd_val_congr m e m' e' hq]
  exact rnd_val_of_le (ulpExp_le_of_fits hb he')

/-! ### the operations: each is `rnd` of an integer pair whose value is the exact result -/

theorem add_aligned_val (x y : Dy) :
    ((x.m * 2 ^ (x.e - min x.e y.e).toNat + y.m * 2 ^ (y.e - min x.e y.e).toNat : Int) : ℚ) * (2 : ℚ) ^ (min x.e y.e) =
      val x + val y := by
  rw [Int.cast_add, add_mul, aligned_val x (min_le_left _ _), aligned_val y (min_le_right _ _)]

theorem mul_aligned_val (x y : Dy) : ((x.m * y.m : Int) : ℚ) * (2 : ℚ) ^ (x.e + y.e) = val x * val y := by
  rw [val, val, zpow_add₀ two_ne, Int.cast_mul]; ring

theorem scale_aligned_val (x : Dy) (k : Int) : (x.m : ℚ) * (2 : ℚ) ^ (x.e + k) = val x * (2 : ℚ) ^ k := by
  rw [val, zpow_add₀ two_ne, mul_assoc]

theorem neg_val (x : Dy) : val (neg x) = -val x := by
  rw [neg, val_mk, Int.cast_neg, neg_mul]; rfl

theorem add_nonneg_of_val {x y : Dy} (h : 0 ≤ val x + val y) : 0 ≤ (add x y).m := by
  rw [← add_aligned_val, mul_nonneg_iff_of_pos_right (two_zpow_pos _), Int.cast_nonneg_iff] at h
  exact rnd_nonneg _ _ h

theorem add_val_eq {x y : Dy} {q : ℚ} (hq : val x + val y = q) (hr : RepVal q) : val (add x y) = q :=
  rnd_val_eq ((add_aligned_val x y).trans hq) hr

theorem sub_val_eq {x y : Dy} {q : ℚ} (hq : val x - val y = q) (hr : RepVal q) : val (sub x y) = q :=
  add_val_eq (by rw [neg_val, ← sub_eq_add_neg, hq]) hr

theorem mul_val_eq {x y : Dy} {q : ℚ} (hq : val x * val y = q) (hr : RepVal q) : val (mul x y) = q :=
  rnd_val_eq ((mul_aligned_val x y).trans hq) hr

theorem scale_val_eq {x : Dy} {k : Int} {q : ℚ} (hq : val x * (2 : ℚ) ^ k = q) (hr : RepVal q) : val (scale x k) = q :=
  rnd_val_eq ((scale_aligned_val x k).trans hq) hr

theorem repVal_int (i : Int) (h : i.natAbs < 2 ^ 53) : RepVal (i : ℚ) :=
  ⟨i, 0, bitLen_le_of_lt _ _ h, by omega, by simp⟩

theorem ofInt_val_exact (i : Int) (h : i.natAbs < 2 ^ 53) : val (ofInt i) = (i : ℚ) :=
  rnd_val_eq (by rw [zpow_zero, mul_one]) (repVal_int i h)

theorem repVal_dyadic (m e : Int) (h : m.natAbs < 2 ^ 53) (he : -1074 ≤ e) : RepVal ((m : ℚ) * (2 : ℚ) ^ e) :=
  ⟨m, e, bitLen_le_of_lt _ _ h, he, rfl⟩

theorem repVal_div_pow (n : Int) (k : Nat) (hn : n.natAbs < 2 ^ 53) (hk : k ≤ 1074) : RepVal ((n : ℚ) / 2 ^ k) :=
  ⟨n, -k, bitLen_le_of_lt _ _ hn, by omega, by rw [zpow_neg, zpow_natCast, div_eq_mul_inv]⟩

/-- a binary64 value times a non-negative power of two is a binary64 value (overflow is not modelled) -/
theorem repVal_mul_pow (q : ℚ) (h : RepVal q) (k : Int) (hk : 0 ≤ k) : RepVal (q * (2 : ℚ) ^ k) := by
  obtain ⟨m, e, hb, he, rfl⟩ := h
  exact ⟨m, e + k, hb, by omega, by rw [zpow_add₀ two_ne]; ring⟩

/-- in any ordered field the value is read in (ℚ here, ℝ in Props/C01) -/
theorem floorInt_mk (K : Type*) [Field K] [LinearOrder K] [IsStrictOrderedRing K] [FloorRing K] (m e : Int) :
    floorInt ⟨m, e⟩ = ⌊(m : K) * (2 : K) ^ e⌋ := by
  rw [floorInt]
  simp only []
  split
  · rename_i h
    obtain ⟨n, rfl⟩ := Int.eq_ofNat_of_zero_le h
    rw [Int.toNat_natCast, zpow_natCast, ← Int.cast_ofNat (R := K), ← Int.cast_pow, ← Int.cast_mul, Int.floor_intCast]
  · rename_i h
    obtain ⟨n, rfl⟩ : ∃ n : ℕ, e = -n := ⟨(-e).toNat, by omega⟩
    rw [Int.neg_neg, Int.toNat_natCast, zpow_neg, zpow_natCast, ← div_eq_mul_inv, ← Nat.cast_ofNat (R := K), ← Nat.cast_pow,
      Int.floor_div_natCast, Int.floor_intCast]
    norm_cast

theorem floorInt_val (x : Dy) : floorInt x = ⌊val x⌋ := floorInt_mk ℚ x.m x.e

theorem floorInt_div_pow {x : Dy} {n : Int} {k : Nat} (h : val x = (n : ℚ) / 2 ^ k) : floorInt x = n / 2 ^ k := by
  rw [floorInt_val, h]; exact_mod_cast Rat.floor_intCast_div_natCast n (2 ^ k)

/-- zoom-out (floor division by `2^d`) commutes with the floor of a dyadic -/
theorem floorInt_coarser (m e e' : Int) (d : Nat) (h : e' = e + d) : floorInt ⟨m, e⟩ = floorInt ⟨m, e'⟩ / 2 ^ d := by
  obtain rfl : e = e' - d := by omega
  rw [floorInt_mk ℚ, floorInt_mk ℚ, zpow_sub₀ two_ne, zpow_natCast, ← mul_div_assoc, ← Nat.cast_ofNat (R := ℚ), ← Nat.cast_pow,
    Int.floor_div_natCast]
  norm_cast

/-! ### division: a quotient with a sticky bit, then one rounding -/

theorem div_sign_mul (xm ym : Int) (hx : xm ≠ 0) (hy : ym ≠ 0) :
    xm * ym = (if (xm < 0) != (ym < 0) then -1 else 1) * ((xm.natAbs * ym.natAbs : Nat) : Int) := by
  have hs : (if (xm < 0) != (ym < 0) then -1 else 1) = (xm * ym).sign := by
    rw [Int.sign_mul]
    rcases Int.lt_or_gt_of_ne hx with h1 | h1 <;> rcases Int.lt_or_gt_of_ne hy with h2 | h2
    · simp [h1, h2, Int.sign_eq_neg_one_of_neg]
    · simp [h1, h2.not_gt, Int.sign_eq_neg_one_of_neg h1, Int.sign_eq_one_of_pos h2]
    · simp [h1.not_gt, h2, Int.sign_eq_one_of_pos h1, Int.sign_eq_neg_one_of_neg h2]
    · simp [h1.not_gt, h2.not_gt, Int.sign_eq_one_of_pos h1, Int.sign_eq_one_of_pos h2]
  rw [hs, ← Int.natAbs_mul, Int.sign_mul_natAbs]

theorem sticky_quot_close (n b : Nat) (hb : 0 < b) :
    |((n / b * 2 + (if n % b = 0 then 0 else 1) : Nat) : ℚ) - 2 * n / b| < 1 := by
  generalize hq2 : n / b * 2 + (if n % b = 0 then 0 else 1) = q2
  have hnat : 2 * n < (q2 + 1) * b ∧ q2 * b < 2 * n + b := by
    have hdm := Nat.div_add_mod' n b
    have hrlt := Nat.mod_lt n hb
    rw [← hq2, Nat.add_mul, Nat.add_mul, Nat.mul_right_comm]
    split <;> omega
  have hbq : (0 : ℚ) < b := Nat.cast_pos.mpr hb
  have h1 : (2 * n : ℚ) < (q2 + 1) * b := by exact_mod_cast hnat.1
  have h2 : (q2 * b : ℚ) < 2 * n + b := by exact_mod_cast hnat.2
  rw [abs_lt]
  constructor
  · rw [neg_lt_sub_iff_lt_add, div_lt_iff₀ hbq]; linarith only [h1]
  · rw [sub_lt_iff_lt_add', ← sub_lt_iff_lt_add, lt_div_iff₀ hbq]; linarith only [h2]

/-- what `div` rounds: an integer `N` at an exponent `E`, less than one unit `2^E` away from the quotient, which is
at least `2^58` units large -/
theorem div_pre (x y : Dy) (hx : x.m ≠ 0) (hy : y.m ≠ 0) :
    ∃ N E : Int, div x y = rnd N E ∧ |(N : ℚ) * (2 : ℚ) ^ E - val x / val y| < (2 : ℚ) ^ E ∧
      (2 : ℚ) ^ (E + 58) ≤ |val x / val y| := by
  rw [div, if_neg hx]
  simp only [Nat.shiftLeft_eq]
  have hs := div_sign_mul x.m y.m hx hy
  have hyy := Int.natAbs_mul_self' y.m
  have hapos : 0 < x.m.natAbs := Int.natAbs_pos.mpr hx
  have hbpos : 0 < y.m.natAbs := Int.natAbs_pos.mpr hy
  generalize hS : (if (x.m < 0) != (y.m < 0) then (-1 : Int) else 1) = S at hs ⊢
  have hSabs : |(S : ℚ)| = 1 := by rw [← hS]; split <;> simp
  clear hS
  generalize x.m.natAbs = a at hs hapos ⊢
  generalize y.m.natAbs = b at hs hyy hbpos ⊢
  -- the shift `k` makes the quotient at least `2^57`
  generalize hk : bitLen b + 56 - min (bitLen a) (bitLen b + 56) + 2 = k
  have hsize : b * 2 ^ 57 < a * 2 ^ k := by
    have hbl := bitLen_pos hapos
    calc b * 2 ^ 57 < 2 ^ bitLen b * 2 ^ 57 := Nat.mul_lt_mul_of_pos_right (lt_two_pow_bitLen _) (Nat.two_pow_pos _)
      _ = 2 ^ (bitLen b + 57) := by rw [Nat.pow_add]
      _ ≤ 2 ^ (bitLen a - 1 + k) := Nat.pow_le_pow_right (by decide) (by omega)
      _ = 2 ^ (bitLen a - 1) * 2 ^ k := by rw [Nat.pow_add]
      _ ≤ a * 2 ^ k := Nat.mul_le_mul_right _ (two_pow_bitLen_pred_le _ hapos)
  generalize hn : a * 2 ^ k = n at hsize ⊢
  generalize hE : x.e - y.e - k - 1 = E
  have hbq : (0 : ℚ) < b := Nat.cast_pos.mpr hbpos
  -- the exact quotient is `S · T` units, `T = 2n / b`
  have hT : val x / val y = (S : ℚ) * (2 * n / b) * (2 : ℚ) ^ E := by
    have h1 : (x.m : ℚ) / y.m = S * ((a : ℚ) / b) := by
      rw [← mul_div_mul_right _ _ (Int.cast_ne_zero.mpr hy), ← Int.cast_mul, ← Int.cast_mul, hs, ← hyy]
      push_cast
      rw [mul_div_assoc, mul_div_mul_right _ _ hbq.ne']
    have h2 : (2 : ℚ) ^ (x.e - y.e) = (2 : ℚ) ^ k * 2 * (2 : ℚ) ^ E := by
      rw [← hE, ← zpow_natCast, ← zpow_add_one₀ two_ne, ← zpow_add₀ two_ne]; congr 1; ring
    rw [val, val, mul_div_mul_comm, ← zpow_sub₀ two_ne, h1, h2, ← hn]
    push_cast
    ring
  have hTpos : (0 : ℚ) < 2 * n / b := div_pos (mul_pos two_pos (Nat.cast_pos.mpr (by omega))) hbq
  have habs : ∀ t : ℚ, |(S : ℚ) * t * (2 : ℚ) ^ E| = |t| * (2 : ℚ) ^ E := fun t => by
    rw [abs_mul, abs_mul, hSabs, one_mul, abs_of_pos (two_zpow_pos E)]
  refine ⟨_, _, rfl, ?_, ?_⟩
  · rw [hT, Int.cast_mul, Int.cast_natCast, mul_assoc, mul_assoc, ← mul_sub, ← sub_mul, ← mul_assoc, habs,
      mul_lt_iff_lt_one_left (two_zpow_pos E)]
    exact sticky_quot_close n b hbpos
  · rw [hT, habs, abs_of_pos hTpos, zpow_add₀ two_ne, mul_comm, zpow_ofNat]
    refine mul_le_mul_of_nonneg_right ?_ (two_zpow_pos E).le
    rw [le_div_iff₀ hbq]
    exact_mod_cast (by omega : 2 ^ 58 * b ≤ 2 * n)

/-- **division is exact when the exact quotient is representable** -/
theorem div_val_exact (x y : Dy) (hy : y.m ≠ 0) (h : RepVal (val x / val y)) : val (div x y) = val x / val y := by
  by_cases hx : x.m = 0
  · simp [div, val, hx]
  obtain ⟨N, E, hd, hlt, hbig⟩ := div_pre x y hx hy
  rw [hd]
  refine rnd_val_eq ?_ h
  obtain ⟨m', e', hb, -, heq⟩ := h
  -- a 53-bit mantissa on a quotient of at least `2^58` units: the last place `e'` is above `E`, so the quotient is a whole
  -- number of units, and `N`, less than one unit away, is that number
  have hE : E ≤ e' := by
    have h1 : |(m' : ℚ)| < 2 ^ (53 : Int) := by
      rw [← natAbs_cast]; exact_mod_cast lt_of_bitLen_le _ _ hb
    have h2 : (2 : ℚ) ^ (E + 58) < 2 ^ (53 + e') := by
      rw [zpow_add₀ two_ne 53]
      refine lt_of_le_of_lt hbig ?_
      rw [heq, abs_mul, abs_of_pos (two_zpow_pos e')]
      exact mul_lt_mul_of_pos_right h1 (two_zpow_pos e')
    have := (zpow_lt_zpow_iff_right₀ (by norm_num : (1 : ℚ) < 2)).mp h2
    omega
  have hM := aligned_val ⟨m', e'⟩ hE
  rw [val_mk, ← heq] at hM
  rw [← hM, ← sub_mul, abs_mul, abs_of_pos (two_zpow_pos E), mul_lt_iff_lt_one_left (two_zpow_pos E), ← Int.cast_sub,
    ← Int.cast_abs, ← Int.cast_one, Int.cast_lt, Int.abs_lt_one_iff, sub_eq_zero] at hlt
  rw [hlt, hM]

theorem div_val_eq {x y : Dy} {q : ℚ} (hy : y.m ≠ 0) (hq : val x / val y = q) (hr : RepVal q) : val (div x y) = q := by
  subst hq; exact div_val_exact x y hy hr

end SpatialId.F64
