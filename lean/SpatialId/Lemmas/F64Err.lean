/-
Rounding error of the software binary64 (`SpatialId/F64.lean`): `rnd` returns a value within half a unit of the last place of
the exact dyadic, and — outside the subnormal range — within the relative error 2^-53.  This is the quantitative counterpart
of `Lemmas/F64Val.lean` (exact when representable).
-/
import SpatialId.Lemmas.F64Val
import Mathlib.Algebra.Order.AbsoluteValue.Basic
namespace SpatialId.F64

/-! ### error propagation through a chain of roundings (pure rational inequalities)

A rounding returns `r` with `|r − x| ≤ u·|x| + c` (`u` the unit roundoff, `c` the subnormal crumb). When `x` itself is only an
approximation of the exact `X`, the error grows by a quarter of what it was and one fresh rounding. Measured in units of
`u·A + c`, `A` a bound on all exact magnitudes of the computation, a chain of roundings is linear arithmetic. -/

theorem round_step {r x X u c a : ℚ} (hu : 0 ≤ u) (hu4 : u ≤ 1 / 4) (hx : |x - X| ≤ a) (hr : |r - x| ≤ u * |x| + c) :
    |r - X| ≤ 5 / 4 * a + u * |X| + c := by
  have ha : 0 ≤ a := le_trans (abs_nonneg _) hx
  have h1 : |x| ≤ |X| + a := by have := abs_sub_abs_le_abs_sub x X; linarith
  have h2 := mul_le_mul_of_nonneg_left h1 hu
  have h3 := mul_le_mul_of_nonneg_right hu4 ha
  have h4 := abs_sub_le r x X
  linarith

theorem round_step_rel {r x X u v w c : ℚ} (hu : 0 ≤ u) (hu4 : u ≤ 1 / 4) (hw : 5 / 4 * v + u ≤ w)
    (hx : |x - X| ≤ v * |X|) (hr : |r - x| ≤ u * |x| + c) : |r - X| ≤ w * |X| + c := by
  refine (round_step hu hu4 hx hr).trans ?_
  rw [← mul_assoc, ← add_mul]
  exact add_le_add_left (mul_le_mul_of_nonneg_right hw (abs_nonneg X)) c

/-- `1 * (…)`: a chain starts at `α = 1`, in the form that `round_chain`, `approx_add` and `approx_half` take -/
theorem round_first {r X u c A : ℚ} (hu : 0 ≤ u) (hX : |X| ≤ A) (hr : |r - X| ≤ u * |X| + c) : |r - X| ≤ 1 * (u * A + c) := by
  have := mul_le_mul_of_nonneg_left hX hu
  linarith

theorem round_chain {r x X u c A α : ℚ} (hu : 0 ≤ u) (hu4 : u ≤ 1 / 4) (hX : |X| ≤ A)
    (hx : |x - X| ≤ α * (u * A + c)) (hr : |r - x| ≤ u * |x| + c) :
    |r - X| ≤ (5 / 4 * α + 1) * (u * A + c) := by
  have h := round_step hu hu4 hx hr
  have := mul_le_mul_of_nonneg_left hX hu
  linarith

/-- the end of a chain: `α` units are at most `k` units -/
theorem units_le {t u A c α k : ℚ} (hA : 0 ≤ u * A) (hc : 0 ≤ c) (hk : α ≤ k) (h : t ≤ α * (u * A + c)) :
    t ≤ k * u * A + k * c := by
  rw [mul_assoc, ← mul_add]
  exact h.trans (mul_le_mul_of_nonneg_right hk (add_nonneg hA hc))

theorem approx_add {p P q Q α β e : ℚ} (hp : |p - P| ≤ α * e) (hq : |q - Q| ≤ β * e) : |p + q - (P + Q)| ≤ (α + β) * e := by
  rw [add_sub_add_comm, add_mul]
  exact (abs_add_le _ _).trans (add_le_add hp hq)

theorem approx_half {p P α e : ℚ} (hp : |p - P| ≤ α * e) : |p / 2 - P / 2| ≤ α / 2 * e := by
  rw [← sub_div, abs_div, abs_two, div_mul_eq_mul_div]
  exact div_le_div_of_nonneg_right hp (by norm_num)

theorem rne_abs_sub_le (a sh : Nat) : |((rne a sh * 2 ^ sh : Nat) : ℚ) - a| ≤ (2 : ℚ) ^ sh / 2 := by
  obtain ⟨h1, h2⟩ := rne_spec a sh
  have h1' : (2 * (rne a sh * 2 ^ sh : Nat) : ℚ) ≤ 2 * a + 2 ^ sh := by exact_mod_cast h1
  have h2' : (2 * a : ℚ) ≤ 2 * (rne a sh * 2 ^ sh : Nat) + 2 ^ sh := by exact_mod_cast h2
  rw [abs_le]
  constructor <;> linarith

/-- `rnd m e` lies within half a unit of the last place of the exact value `m·2^e` -/
theorem rnd_abs_error (m e : Int) (h0 : m ≠ 0) :
    |val (rnd m e) - (m : ℚ) * (2 : ℚ) ^ e| ≤ (2 : ℚ) ^ (ulpExp m e - 1) := by
  rcases le_or_gt (ulpExp m e) e with h | h
  · rw [rnd_val_of_le h, sub_self, abs_zero]
    exact (two_zpow_pos _).le
  · -- both are `sign m · 2^e` times a natural: the rounded mantissa with its `sh` zeros, and `|m|`
    generalize hsh : (ulpExp m e - e).toNat = sh
    rw [rnd_val, hsh, ← cast_sign_mul_natAbs m, mul_assoc, mul_assoc, ← mul_sub, ← sub_mul, abs_mul,
      abs_mul, ← Int.cast_abs, Int.abs_sign_of_ne_zero h0, Int.cast_one, one_mul, abs_of_pos (two_zpow_pos e),
      show ulpExp m e - 1 = (sh : Int) - 1 + e by omega, zpow_add₀ two_ne, zpow_sub_one₀ two_ne, zpow_natCast]
    exact mul_le_mul_of_nonneg_right (rne_abs_sub_le _ _) (two_zpow_pos e).le

/-- outside the subnormal range the relative error is at most 2^-53 -/
theorem rnd_rel_error (m e : Int) (h0 : m ≠ 0) (hn : -1074 ≤ e + (bitLen m.natAbs : Int) - 53) :
    |val (rnd m e) - (m : ℚ) * (2 : ℚ) ^ e| ≤ (2 : ℚ) ^ (-53 : Int) * |(m : ℚ) * (2 : ℚ) ^ e| := by
  have hpos : 0 < m.natAbs := Int.natAbs_pos.mpr h0
  have hb1 := bitLen_pos hpos
  -- half a unit of the last place is `2^-53` times the leading bit of `|m|`
  have hu : ulpExp m e - 1 = -53 + (((bitLen m.natAbs - 1 : Nat) : Int) + e) := by unfold ulpExp; omega
  refine le_trans (rnd_abs_error m e h0) ?_
  rw [hu, zpow_add₀ two_ne, zpow_add₀ two_ne, zpow_natCast, abs_mul, abs_of_pos (two_zpow_pos e), ← natAbs_cast]
  refine mul_le_mul_of_nonneg_left (mul_le_mul_of_nonneg_right ?_ (two_zpow_pos e).le) (two_zpow_pos _).le
  exact_mod_cast two_pow_bitLen_pred_le m.natAbs hpos

/-- one bound for both ranges: relative 2^-53 plus the absolute half-ulp of the subnormal range -/
theorem rnd_err (m e : Int) :
    |val (rnd m e) - (m : ℚ) * (2 : ℚ) ^ e| ≤ (2 : ℚ) ^ (-53 : Int) * |(m : ℚ) * (2 : ℚ) ^ e| + (2 : ℚ) ^ (-1075 : Int) := by
  by_cases h0 : m = 0
  · subst h0
    simp only [rnd_zero, val_mk, Int.cast_zero, zero_mul, sub_self, abs_zero, mul_zero, zero_add]
    exact (two_zpow_pos _).le
  by_cases hn : -1074 ≤ e + (bitLen m.natAbs : Int) - 53
  · exact (rnd_rel_error m e h0 hn).trans (le_add_of_nonneg_right (two_zpow_pos _).le)
  · have hu : ulpExp m e - 1 = -1075 := by unfold ulpExp; omega
    have := rnd_abs_error m e h0
    rw [hu] at this
    exact this.trans (le_add_of_nonneg_left (mul_nonneg (two_zpow_pos _).le (abs_nonneg _)))

/-- the sum is the exact sum up to one rounding -/
theorem add_err (x y : Dy) :
    |val (add x y) - (val x + val y)| ≤ (2 : ℚ) ^ (-53 : Int) * |val x + val y| + (2 : ℚ) ^ (-1075 : Int) := by
  rw [← add_aligned_val]; exact rnd_err _ _

theorem sub_err (x y : Dy) :
    |val (sub x y) - (val x - val y)| ≤ (2 : ℚ) ^ (-53 : Int) * |val x - val y| + (2 : ℚ) ^ (-1075 : Int) := by
  have := add_err x (neg y)
  rwa [neg_val, ← sub_eq_add_neg] at this

theorem mul_err (x y : Dy) :
    |val (mul x y) - val x * val y| ≤ (2 : ℚ) ^ (-53 : Int) * |val x * val y| + (2 : ℚ) ^ (-1075 : Int) := by
  rw [← mul_aligned_val]; exact rnd_err _ _

theorem scale_err (x : Dy) (k : Int) :
    |val (scale x k) - val x * (2 : ℚ) ^ k| ≤ (2 : ℚ) ^ (-53 : Int) * |val x * (2 : ℚ) ^ k| + (2 : ℚ) ^ (-1075 : Int) := by
  rw [← scale_aligned_val]; exact rnd_err _ _

theorem four_crumb : 4 * (2 : ℚ) ^ (-1075 : Int) = (2 : ℚ) ^ (-1073 : Int) := by
  rw [show (-1073 : Int) = 2 + -1075 from rfl, zpow_add₀ two_ne]; norm_num

theorem eight_crumb : 8 * (2 : ℚ) ^ (-1075 : Int) = (2 : ℚ) ^ (-1072 : Int) := by
  rw [show (-1072 : Int) = 3 + -1075 from rfl, zpow_add₀ two_ne]; norm_num

/-- scaling by a power of two is exact while the exponent of the pair stays at or above the subnormal one: `rnd` drops no bit
(the result may be subnormal) -/
theorem scale_val_of_rep (x : Dy) (k : Int) (hr : Rep x) (hk : -1074 ≤ x.e + k) : val (scale x k) = val x * (2 : ℚ) ^ k :=
  (rnd_val_of_le (ulpExp_le_of_fits hr.1 hk)).trans (scale_aligned_val x k)

/-- the quotient is the exact quotient up to relative error 2^-52 (sticky-bit quotient, then one rounding) -/
theorem div_err (x y : Dy) (hy : y.m ≠ 0) :
    |val (div x y) - val x / val y| ≤ (2 : ℚ) ^ (-52 : Int) * |val x / val y| + (2 : ℚ) ^ (-1075 : Int) := by
  by_cases hx : x.m = 0
  · simp only [div, val, hx, if_true, Int.cast_zero, zero_mul, zero_div, sub_self, abs_zero, mul_zero, zero_add]
    exact (two_zpow_pos _).le
  obtain ⟨N, E, hd, hlt, hbig⟩ := div_pre x y hx hy
  -- one unit `2^E` is at most `2^-58` of the quotient
  have hpre : |(N : ℚ) * (2 : ℚ) ^ E - val x / val y| ≤ (2 : ℚ) ^ (-58 : Int) * |val x / val y| :=
    calc _ ≤ (2 : ℚ) ^ E := hlt.le
      _ = (2 : ℚ) ^ (-58 : Int) * (2 : ℚ) ^ (E + 58) := by rw [← zpow_add₀ two_ne]; congr 1; ring
      _ ≤ _ := mul_le_mul_of_nonneg_left hbig (two_zpow_pos _).le
  rw [hd]
  exact round_step_rel (two_zpow_pos _).le (by norm_num) (by norm_num) hpre (rnd_err N E)

/-- a mantissa of up to `2^53` (the value a carry out of the 53rd bit leaves) still denotes a binary64 value -/
theorem repVal_of_natAbs_le (n E : Int) (h : n.natAbs ≤ 2 ^ 53) (hE : -1074 ≤ E) : RepVal ((n : ℚ) * (2 : ℚ) ^ E) := by
  rcases Nat.lt_or_eq_of_le h with h | h
  · exact repVal_dyadic n E h hE
  · -- `±2^53 · 2^E = ±2^52 · 2^(E+1)`
    refine ⟨n.sign * 2 ^ 52, E + 1, ?_, by omega, ?_⟩
    · have h0 : n ≠ 0 := by rintro rfl; simp at h
      rw [Int.natAbs_mul, Int.natAbs_sign_of_ne_zero h0]
      decide
    · rw [← cast_sign_mul_natAbs n, h, zpow_add_one₀ two_ne]
      push_cast
      ring

/-- the result of a rounding is a binary64 value (as a rational: the mantissa `2^53` of a carry is renormalised) -/
theorem repVal_rnd (m e : Int) : RepVal (val (rnd m e)) := by
  generalize hsh : (ulpExp m e - e).toNat = sh
  have hv : val (rnd m e) = ((m.sign * (rne m.natAbs sh : Int) : Int) : ℚ) * (2 : ℚ) ^ (e + sh) := by
    rw [rnd_val, hsh, zpow_add₀ two_ne, zpow_natCast]; push_cast; ring
  have hr : rne m.natAbs sh ≤ 2 ^ 53 := rne_le _ _ 53 (lt_of_bitLen_le _ _ (by unfold ulpExp at hsh; omega))
  rw [hv]
  refine repVal_of_natAbs_le _ _ ?_ (by unfold ulpExp at hsh; omega)
  rw [Int.natAbs_mul, Int.natAbs_sign, Int.natAbs_natCast]
  split <;> omega

theorem repVal_add (x y : Dy) : RepVal (val (add x y)) := by unfold add; exact repVal_rnd _ _
theorem repVal_div (x y : Dy) : RepVal (val (div x y)) := by
  unfold div
  split
  · exact ⟨0, 0, by decide, by decide, by simp [val]⟩
  · exact repVal_rnd _ _

end SpatialId.F64
