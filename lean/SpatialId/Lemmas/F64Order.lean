/-
The comparison of the software binary64 is the order of the rational values: `val ⟨m, e⟩ = m · 2^e`.
-/
import Mathlib.Algebra.Order.Field.Power
import Mathlib.Tactic.Ring
import Mathlib.Tactic.Linarith
import Mathlib.Tactic.Positivity
import Mathlib.Tactic.FieldSimp
import SpatialId.F64
namespace SpatialId.F64

/-- the rational number a dyadic denotes -/
def val (x : Dy) : ℚ := (x.m : ℚ) * (2 : ℚ) ^ x.e

theorem two_zpow_pos (e : Int) : (0 : ℚ) < (2 : ℚ) ^ e := zpow_pos (by norm_num) e

theorem two_ne : (2 : ℚ) ≠ 0 := by norm_num

theorem two_zpow_toNat {h : Int} (hh : 0 ≤ h) : (2 : ℚ) ^ h = 2 ^ h.toNat := by
  rw [← zpow_natCast, Int.toNat_of_nonneg hh]

theorem val_mk (m e : Int) : val ⟨m, e⟩ = (m : ℚ) * (2 : ℚ) ^ e := rfl

/-- a mantissa moved to a lower exponent `E`, as `add` and `cmpInt` do before they combine two operands -/
theorem aligned_val (x : Dy) {E : Int} (h : E ≤ x.e) : ((x.m * 2 ^ (x.e - E).toNat : Int) : ℚ) * (2 : ℚ) ^ E = val x := by
  rw [val, Int.cast_mul, Int.cast_pow, Int.cast_ofNat, mul_assoc, ← zpow_natCast, ← zpow_add₀ two_ne,
    Int.toNat_of_nonneg (by omega), sub_add_cancel]

theorem cmpInt_val (x y : Dy) : ((cmpInt x y : Int) : ℚ) * (2 : ℚ) ^ (min x.e y.e) = val x - val y := by
  rw [cmpInt, Int.cast_sub, sub_mul, aligned_val x (min_le_left _ _), aligned_val y (min_le_right _ _)]

theorem le_iff_val (x y : Dy) : le x y = true ↔ val x ≤ val y := by
  rw [le, decide_eq_true_eq, ← not_lt, ← not_lt, ← sub_pos (a := val x), ← cmpInt_val,
    mul_pos_iff_of_pos_right (two_zpow_pos _), Int.cast_pos]

theorem cmpInt_nonneg_iff (x y : Dy) : 0 ≤ cmpInt x y ↔ val y ≤ val x := by
  rw [← sub_nonneg (a := val x), ← cmpInt_val, mul_nonneg_iff_of_pos_right (two_zpow_pos _), Int.cast_nonneg_iff]

theorem lt_iff_val (x y : Dy) : lt x y = true ↔ val x < val y := by
  rw [lt, decide_eq_true_eq, ← not_le, ← not_le, cmpInt_nonneg_iff]

theorem eq_iff_val (x y : Dy) : eq x y = true ↔ val x = val y := by
  rw [eq, decide_eq_true_eq, ← sub_eq_zero (a := val x), ← cmpInt_val, mul_eq_zero_iff_right (two_zpow_pos _).ne',
    Int.cast_eq_zero]

theorem lt_eq_false_iff (x y : Dy) : lt x y = false ↔ val y ≤ val x := by
  rw [← not_lt, ← lt_iff_val, Bool.not_eq_true]

theorem val_le_of_lt {x y : Dy} (h : lt x y = true) : val x ≤ val y := ((lt_iff_val x y).mp h).le

theorem val_le_of_not_lt {x y : Dy} (h : ¬ lt x y = true) : val y ≤ val x := not_lt.mp (mt (lt_iff_val x y).mpr h)

theorem eq_eq_false_iff (x y : Dy) : eq x y = false ↔ val x ≠ val y := by
  rw [Ne, ← eq_iff_val, Bool.not_eq_true]

theorem abs_val (x : Dy) : val (abs x) = |val x| := by
  rw [val, val, abs_mul, abs_of_pos (two_zpow_pos x.e), ← Int.cast_abs, Int.abs_eq_natAbs]
  rfl

theorem pow2_val (n : Int) : val (pow2 n) = (2 : ℚ) ^ n := by simp [val, pow2]

theorem le_trans' {x y z : Dy} (h1 : le x y = true) (h2 : le y z = true) : le x z = true := by
  rw [le_iff_val] at *; exact _root_.le_trans h1 h2

theorem le_total' (x y : Dy) : le x y = true ∨ le y x = true := by
  rw [le_iff_val, le_iff_val]; exact _root_.le_total _ _

end SpatialId.F64
