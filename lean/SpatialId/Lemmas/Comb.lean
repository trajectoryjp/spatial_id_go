/-
`combinations n k` enumerates `chooseK k [0, …, n-1]`: `combStep` is the successor function of the
lexicographic list `chooseK`, and fails exactly on its last element.
-/
import Mathlib.Data.List.Chain
import SpatialId.Model.Util
namespace SpatialId
open List

theorem chooseK_head {α} (k : Nat) (l : List α) :
    (chooseK k l).head? = if k ≤ l.length then some (l.take k) else none := by
  fun_induction chooseK k l with
  | case1 | case2 => simp
  | case3 k a l ih1 ih2 =>
    simp only [head?_append, head?_map, ih1, ih2, length_cons, take_succ_cons]
    by_cases h : k ≤ l.length
    · simp [h]
    · simp [h, show ¬k + 1 ≤ l.length by omega]

theorem chooseK_last {α} (k : Nat) (l : List α) :
    (chooseK k l).getLast? = if k ≤ l.length then some (l.drop (l.length - k)) else none := by
  fun_induction chooseK k l with
  | case1 | case2 => simp
  | case3 k a l ih1 ih2 =>
    simp only [getLast?_append, getLast?_map, ih1, ih2, length_cons]
    by_cases h : k + 1 ≤ l.length
    · simp [h, Nat.le_of_succ_le h, show l.length - k = l.length - (k + 1) + 1 by omega]
    · by_cases h' : k ≤ l.length
      · simp [h, h', show l.length - k = 0 by omega]
      · simp [h, h']

theorem chooseK_range_head {α} (f : Nat → α) (k a l : Nat) (h : k ≤ l) :
    (chooseK k ((range' a l).map f)).head? = some ((range' a k).map f) := by
  rw [chooseK_head, length_map, length_range', if_pos h, ← map_take, take_range'_of_length_ge h]

theorem chooseK_range_last {α} (f : Nat → α) (k a l : Nat) (h : k ≤ l) :
    (chooseK k ((range' a l).map f)).getLast? = some ((range' (a + (l - k)) k).map f) := by
  rw [chooseK_last, length_map, length_range', if_pos h, ← map_drop, drop_range', Nat.sub_sub_self h, Nat.mul_one]

theorem chooseK_length_le {α} (k : Nat) (l : List α) : (chooseK k l).length ≤ 2 ^ l.length := by
  fun_induction chooseK k l with
  | case1 => simpa using Nat.one_le_two_pow
  | case2 => simp
  | case3 k a l ih1 ih2 =>
    simp only [length_append, length_map, length_cons, Nat.pow_succ]
    omega

theorem combinations.go_eq_of_isChain (n k : Int) (S : List (List Int)) (p : List Int) (fuel : Nat)
    (hS : IsChain (fun x y => combStep n k x = some y) S) (hp : S.head? = some p)
    (hlast : ∀ z ∈ S.getLast?, combStep n k z = none) (hf : S.length ≤ fuel) :
    combinations.go n k fuel p = S := by
  induction S generalizing p fuel with
  | nil => simp at hp
  | cons x S ih =>
    obtain rfl : x = p := by simpa using hp
    obtain ⟨fuel, rfl⟩ : ∃ f, fuel = f + 1 := ⟨fuel - 1, by simp at hf; omega⟩
    cases S with
    | nil => simp [combinations.go, hlast x rfl]
    | cons y S =>
      rw [isChain_cons_cons] at hS
      rw [combinations.go, hS.1]
      exact congrArg (x :: ·) (ih y fuel hS.2 rfl hlast (by simpa using hf))

/-- the scan passes over positions that hold their maximal value -/
theorem combStep.find_skip (n k : Int) (p : List Int) (j : Nat) :
    ∀ m, (∀ i, i < m → p.getD (j + i) 0 = n + ↑(j + i) - k) →
      combStep.find n k p (j + m) = combStep.find n k p j
  | 0, _ => rfl
  | m + 1, h => by
    rw [← Nat.add_assoc, combStep.find, if_pos (h m (Nat.lt_succ_self m)),
      combStep.find_skip n k p j m fun i hi => h i (Nat.lt_succ_of_lt hi)]

theorem combStep.find_append_max (n s m K : Nat) (hs : s + m = n) (q : List Int) (hK : q.length + m = K) :
    combStep.find n K (q ++ (range' s m).map Nat.cast) K
      = combStep.find n K (q ++ (range' s m).map Nat.cast) q.length := by
  subst hK
  apply combStep.find_skip
  intro i hi
  simp [getD_eq_getElem?_getD, getElem?_append_right, getElem?_range' hi]
  omega

theorem combStep_max (n s k : Nat) (hs : s + k = n) :
    combStep n k ((range' s k).map Nat.cast) = none := by
  have := combStep.find_append_max n s k k hs [] (Nat.zero_add k)
  rw [nil_append] at this
  rw [combStep, Int.toNat_natCast, this]
  rfl

theorem combStep_append_cons_max (n s m a K : Nat) (hs : s + m = n) (ha : a + 1 < s) (q : List Int)
    (hK : q.length + 1 + m = K) :
    combStep n K (q ++ (a : Int) :: (range' s m).map Nat.cast)
      = some (q ++ (range' (a + 1) (m + 1)).map Nat.cast) := by
  have := combStep.find_append_max n s m K hs (q ++ [(a : Int)]) (by simpa using hK)
  rw [append_assoc, singleton_append, length_append, length_singleton] at this
  rw [combStep, Int.toNat_natCast, this, combStep.find, if_neg]
  · simp [getD_eq_getElem?_getD, show K - q.length = m + 1 by omega, range'_eq_map_range]
  · simp [getD_eq_getElem?_getD]
    omega

theorem isChain_chooseK (n K l a k : Nat) (q : List Int) (ha : a + l = n) (hK : q.length + k = K) :
    IsChain (fun x y => combStep n K (q ++ x) = some (q ++ y))
      (chooseK k ((range' a l).map Nat.cast)) := by
  induction l generalizing a k q with
  | zero => cases k <;> simp [chooseK]
  | succ l ih =>
    cases k with
    | zero => simp [chooseK]
    | succ k =>
      -- the patterns that start with `a` (prefix `q ++ [a]`), then those that do not; in between,
      -- `a :: [n-k, …, n-1]` steps to `[a+1, …, a+k+1]`
      rw [range'_succ, map_cons, chooseK, isChain_append, isChain_map]
      refine ⟨?_, ih (a + 1) (k + 1) q (by omega) hK, ?_⟩
      · simpa using ih (a + 1) k (q ++ [(a : Int)]) (by omega) (by simp; omega)
      · by_cases h : k + 1 ≤ l
        · rw [getLast?_map, chooseK_range_last _ _ _ _ (Nat.le_of_succ_le h), chooseK_range_head _ _ _ _ h]
          rintro _ ⟨⟩ _ ⟨⟩
          exact combStep_append_cons_max n _ k a K (by omega) (by omega) q (by omega)
        · simp [chooseK_head, h]

/-- **the enumerator is the specification**: `Combinations(n, k, f)` hands `f` the `k`-element sublists of
`[0, …, n-1]`, each once, in lexicographic order (given fuel for every one of them) -/
theorem combinations_eq_chooseK (n k fuel : Nat) (hk : k ≤ n)
    (hf : (chooseK k ((List.range n).map fun (i : Nat) => (i : Int))).length ≤ fuel) :
    combinations (n : Int) (k : Int) fuel
      = chooseK k ((List.range n).map fun (i : Nat) => (i : Int)) := by
  simp only [combinations, Int.toNat_natCast, range_eq_range'] at *
  refine combinations.go_eq_of_isChain _ _ _ _ _ ?_ (chooseK_range_head _ k 0 n hk) ?_ hf
  · simpa using isChain_chooseK n k n 0 k [] (Nat.zero_add n) (Nat.zero_add k)
  · rw [chooseK_range_last _ k 0 n hk]
    rintro _ ⟨⟩
    exact combStep_max n _ k (by omega)

end SpatialId
