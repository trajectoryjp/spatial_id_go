/-
Helper lemmas over core Lean only: pow2, arithShift, checkZoom, product lists, irange, dedup, folds that keep the best element,
Option-valued mapM.
-/
import SpatialId.Basic
namespace SpatialId

theorem Outcome.ofOption_eq_ok {α} {o : Option α} {a : α} : Outcome.ofOption o = .ok a ↔ o = some a := by
  cases o <;> simp [Outcome.ofOption]

theorem Outcome.ofOption_ne_panic {α} (o : Option α) : Outcome.ofOption o ≠ .panic := by
  cases o <;> simp [Outcome.ofOption]

theorem two_pow_pos (n : Nat) : (0 : Int) < 2 ^ n := Int.pow_pos (by decide)

theorem two_pow_le_of_le {a b : Nat} (h : a ≤ b) : (2 : Int) ^ a ≤ 2 ^ b := by
  exact_mod_cast Nat.pow_le_pow_right (by decide : 1 ≤ 2) h

theorem pow2_nonneg_eq (n : Int) (h : 0 ≤ n) : pow2 n = 2 ^ n.toNat := by simp [pow2, h]

theorem pow2_pos (n : Int) (h : 0 ≤ n) : 0 < pow2 n := by
  rw [pow2_nonneg_eq n h]; exact two_pow_pos _

theorem pow2_natCast (n : Nat) : pow2 (n : Int) = 2 ^ n := by
  simp [pow2]

theorem arithShift_neg (i s : Int) (h : s < 0) : arithShift i s = i / 2 ^ (-s).toNat := by
  have : ¬ (0 ≤ s) := by omega
  simp only [arithShift, this, if_false, Int.shiftRight_eq_div_pow]
  norm_cast

theorem arithShift_nonneg (i s : Int) (h : 0 ≤ s) : arithShift i s = i * 2 ^ s.toNat := by
  simp [arithShift, h]

theorem two_pow_split (p q r : Nat) (h : p = q + r) : (2 : Int) ^ p = 2 ^ q * 2 ^ r := by
  rw [h, Int.pow_add]

theorem arithShift_mul_two_pow (n s : Int) (p q : Nat) (h : s = p - q) (h0 : 0 ≤ s) :
    arithShift n s * 2 ^ q = n * 2 ^ p := by
  rw [arithShift_nonneg _ _ h0, Int.mul_assoc, ← two_pow_split p s.toNat q (by omega)]

theorem arithShift_eq_ediv (n s : Int) (p q : Nat) (h : s = p - q) : arithShift n s = n * 2 ^ p / 2 ^ q := by
  by_cases hs : 0 ≤ s
  · rw [← arithShift_mul_two_pow n s p q h hs, Int.mul_ediv_cancel _ (Int.ne_of_gt (two_pow_pos q))]
  · rw [arithShift_neg _ _ (by omega), two_pow_split q (-s).toNat p (by omega),
      Int.mul_ediv_mul_of_pos_left _ _ (two_pow_pos p)]

theorem mul_sub_one_ediv (k c : Int) (hc : 0 < c) : (k * c - 1) / c = k - 1 :=
  (Int.ediv_eq_iff_of_pos hc).mpr (by rw [Int.sub_mul, Int.one_mul]; omega)

theorem neg_one_sub_ediv (f n : Int) (hn : 0 < n) : (-1 - f) / n = -1 - f / n := by
  have h1 := Int.ediv_mul_le f (Int.ne_of_gt hn)
  have h2 := Int.lt_ediv_add_one_mul_self f hn
  rw [Int.add_mul, Int.one_mul] at h2
  exact (Int.ediv_eq_iff_of_pos hn).mpr (by rw [Int.sub_mul, Int.neg_mul, Int.one_mul]; omega)

theorem checkZoom_iff (z : Int) : checkZoom z = true ↔ 0 ≤ z ∧ z ≤ 35 := by simp [checkZoom]

/-- the zoom guard of the list operations (`!(checkZoom H && checkZoom V)`) -/
theorem checkZoom2_iff (H V : Int) : (checkZoom H && checkZoom V) = true ↔ 0 ≤ H ∧ H ≤ 35 ∧ 0 ≤ V ∧ V ≤ 35 := by
  simp [checkZoom, and_assoc]

theorem length_flatMap_const {α β} (l : List α) (f : α → List β) (c : Nat) (h : ∀ a ∈ l, (f a).length = c) :
    (l.flatMap f).length = l.length * c := by
  induction l with
  | nil => simp
  | cons a l ih =>
    rw [List.flatMap_cons, List.length_append, h a List.mem_cons_self, ih (fun b hb => h b (List.mem_cons_of_mem _ hb)),
      List.length_cons, Nat.add_mul, Nat.one_mul, Nat.add_comm]

theorem mem_ite_singleton {α} {p q : Prop} [Decidable p] (h : p ↔ q) (a k : α) (l : List α) :
    a ∈ (if p then [k] else l) ↔ (a = k ∧ q) ∨ (a ∈ l ∧ ¬ q) := by
  by_cases hp : p
  · simp [hp, h.mp hp]
  · simp [hp, mt h.mpr hp]

/-! ### product lists `l.flatMap fun a => m.map (g a)` (Go: two nested loops appending `g a b`) -/

theorem length_flatMap_map {α β γ} (l : List α) (m : List β) (g : α → β → γ) :
    (l.flatMap fun a => m.map (g a)).length = l.length * m.length :=
  length_flatMap_const _ _ _ fun _ _ => List.length_map _

theorem flatMap_map_ne_nil {α β γ} {l : List α} {m : List β} (g : α → β → γ) (hl : l ≠ []) (hm : m ≠ []) :
    (l.flatMap fun a => m.map (g a)) ≠ [] := by
  obtain ⟨a, ha⟩ := List.exists_mem_of_ne_nil _ hl
  obtain ⟨b, hb⟩ := List.exists_mem_of_ne_nil _ hm
  exact List.ne_nil_of_mem (List.mem_flatMap.mpr ⟨a, ha, List.mem_map.mpr ⟨b, hb, rfl⟩⟩)

theorem nodup_flatMap_map_inj {α β γ} {l : List α} {m : List β} (g : α → β → γ) (hl : l.Nodup) (hm : m.Nodup)
    (hinj : ∀ a b a' b', g a b = g a' b' → a = a' ∧ b = b') :
    (l.flatMap fun a => m.map fun b => g a b).Nodup := by
  rw [List.Nodup, List.pairwise_flatMap]
  constructor
  · intro a _
    exact List.Pairwise.map _ (fun b b' (h : b ≠ b') heq => h (hinj _ _ _ _ heq).2) hm
  · refine List.Pairwise.imp ?_ hl
    intro a a' (hne : a ≠ a') x hx y hy heq
    obtain ⟨b, _, rfl⟩ := List.mem_map.mp hx
    obtain ⟨b', _, rfl⟩ := List.mem_map.mp hy
    exact hne (hinj _ _ _ _ heq).1

theorem mem_irange (lo hi a : Int) : a ∈ irange lo hi ↔ lo ≤ a ∧ a ≤ hi := by
  simp only [irange, List.mem_map, List.mem_range]
  constructor
  · rintro ⟨i, hi', rfl⟩; omega
  · rintro ⟨h1, h2⟩
    refine ⟨(a - lo).toNat, by omega, by omega⟩

theorem length_irange (lo hi : Int) : (irange lo hi).length = (hi + 1 - lo).toNat := by
  simp [irange]

theorem nodup_irange (lo hi : Int) : (irange lo hi).Nodup := by
  unfold irange
  exact List.Pairwise.map _ (fun a b (h : a ≠ b) => by omega) List.nodup_range

theorem irange_self (i : Int) : irange i i = [i] := by
  simp [irange, show (i + 1 - i).toNat = 1 by omega]

theorem irange_ne_nil {lo hi : Int} (h : lo ≤ hi) : irange lo hi ≠ [] :=
  List.ne_nil_of_mem ((mem_irange lo hi lo).mpr ⟨Int.le_refl _, h⟩)

theorem mem_dedup {α} [DecidableEq α] (l : List α) (a : α) : a ∈ dedup l ↔ a ∈ l := by
  induction l with
  | nil => simp [dedup]
  | cons b l ih =>
    simp only [dedup]
    split
    · rename_i hb
      rw [ih, List.mem_cons]
      exact ⟨Or.inr, fun h => h.elim (fun e => ih.mp (e ▸ hb)) id⟩
    · simp [ih]

theorem nodup_dedup {α} [DecidableEq α] (l : List α) : (dedup l).Nodup := by
  induction l with
  | nil => simp [dedup]
  | cons b l ih =>
    simp only [dedup]
    split
    · exact ih
    · rename_i hb; exact List.nodup_cons.mpr ⟨hb, ih⟩

theorem dedup_eq_self_of_nodup {α} [DecidableEq α] {l : List α} (h : l.Nodup) : dedup l = l := by
  induction l with
  | nil => simp [dedup]
  | cons b l ih =>
    have hb := (List.nodup_cons.mp h)
    simp only [dedup, ih hb.2]
    simp [hb.1]

/-! ### folds that keep the best element so far (Go: `for … { if better(x, best) { best = x } }`) -/

/-- a left fold that replaces its state by `g a` whenever the test `c` says so; if the test decides a reflexive, transitive
relation `R` (replace: the new one is above; keep: the new one is below) the final state is `R`-above everything seen -/
theorem foldl_select {α β} (R : β → β → Prop) (g : α → β) (c : β → α → Prop) [∀ b a, Decidable (c b a)]
    (hrefl : ∀ b, R b b) (htrans : ∀ {x y z}, R x y → R y z → R x z)
    (h1 : ∀ b a, c b a → R b (g a)) (h2 : ∀ b a, ¬ c b a → R (g a) b) (l : List α) (b : β) :
    let r := l.foldl (fun acc a => if c acc a then g a else acc) b
    (r = b ∨ ∃ a ∈ l, r = g a) ∧ R b r ∧ ∀ a ∈ l, R (g a) r := by
  induction l generalizing b with
  | nil => exact ⟨Or.inl rfl, hrefl b, nofun⟩
  | cons a l ih =>
    simp only [List.foldl_cons, List.mem_cons, forall_eq_or_imp, exists_eq_or_imp]
    by_cases h : c b a
    · obtain ⟨i1, i2, i3⟩ := ih (g a)
      rw [if_pos h]
      exact ⟨Or.inr (i1.imp id id), htrans (h1 b a h) i2, i2, i3⟩
    · obtain ⟨i1, i2, i3⟩ := ih b
      rw [if_neg h]
      exact ⟨i1.imp id Or.inr, i2, htrans (h2 b a h) i2, i3⟩

/-! ### Option-valued mapM (Go: return the error at the first bad element) -/

theorem mapM_option_eq_some {α β} (f : α → Option β) : ∀ (l : List α) (out : List β),
    l.mapM f = some out ↔ l.map f = out.map some := by
  intro l
  induction l with
  | nil => intro out; cases out <;> simp
  | cons a l ih =>
    intro out
    rw [List.mapM_cons]
    cases out with
    | nil => cases f a <;> cases l.mapM f <;> simp
    | cons b bs =>
      simp only [Option.bind_eq_bind, Option.bind_eq_some_iff, Option.pure_def, Option.some.injEq, List.cons.injEq,
        List.map_cons, ← ih]
      constructor
      · rintro ⟨b', hb, bs', hbs, rfl, rfl⟩; exact ⟨hb, hbs⟩
      · rintro ⟨hb, hbs⟩; exact ⟨b, hb, bs, hbs, rfl, rfl⟩

theorem mapM_option_spec {α β} {f : α → Option β} {l : List α} {out : List β} (h : l.mapM f = some out) :
    out.length = l.length ∧ ∀ i (hi : i < l.length) (ho : i < out.length), f l[i] = some out[i] := by
  have h' := (mapM_option_eq_some f l out).mp h
  refine ⟨by simpa using (congrArg List.length h').symm, fun i hi ho => ?_⟩
  simpa [hi, ho] using congrArg (·[i]?) h'

theorem mapM_option_mem {α β} {f : α → Option β} {l : List α} {out : List β} (h : l.mapM f = some out) :
    (∀ a ∈ l, ∃ b ∈ out, f a = some b) ∧ ∀ b ∈ out, ∃ a ∈ l, f a = some b := by
  have hm := (mapM_option_eq_some f l out).mp h
  constructor
  · intro a ha
    obtain ⟨b, hb, e⟩ := List.mem_map.mp (hm ▸ List.mem_map_of_mem ha : f a ∈ out.map some)
    exact ⟨b, hb, e.symm⟩
  · intro b hb
    exact List.mem_map.mp (hm ▸ List.mem_map_of_mem hb : some b ∈ l.map f)

theorem mapM_option_none {α β} {f : α → Option β} {l : List α} {a : α} (ha : a ∈ l) (hf : f a = none) : l.mapM f = none := by
  cases h : l.mapM f with
  | none => rfl
  | some out =>
    have : none ∈ out.map some := (mapM_option_eq_some f l out).mp h ▸ List.mem_map.mpr ⟨a, ha, hf⟩
    simp at this

theorem mapM_option_isSome {α β} {f : α → Option β} {l : List α} (h : ∀ a ∈ l, (f a).isSome) : ∃ out, l.mapM f = some out := by
  induction l with
  | nil => exact ⟨[], rfl⟩
  | cons a r ih =>
    obtain ⟨b, hb⟩ := Option.isSome_iff_exists.mp (h a List.mem_cons_self)
    obtain ⟨out, ho⟩ := ih (fun c hc => h c (List.mem_cons_of_mem _ hc))
    exact ⟨b :: out, by simp [List.mapM_cons, hb, ho]⟩

theorem mapM_option_map {α β} {f : α → Option β} (g : α → β) {l : List α} (h : ∀ a ∈ l, f a = some (g a)) :
    l.mapM f = some (l.map g) :=
  (mapM_option_eq_some f l _).mpr (by rw [List.map_map]; exact List.map_congr_left h)

theorem mapM_option_factor {α β γ} {f : α → Option β} (g : α → Option γ) (k : β → γ) {l : List α} {out : List β}
    (h : l.mapM f = some out) (hg : ∀ a ∈ l, ∀ b ∈ out, f a = some b → g a = some (k b)) :
    l.mapM g = some (out.map k) := by
  obtain ⟨hlen, hget⟩ := mapM_option_spec h
  refine (mapM_option_eq_some g l _).mpr (List.ext_getElem (by simp [hlen]) fun i h1 h2 => ?_)
  simp only [List.getElem_map]
  exact hg _ (List.getElem_mem _) _ (List.getElem_mem _) (hget i _ _)

end SpatialId
