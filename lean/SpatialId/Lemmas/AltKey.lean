/-
The arithmetic of the altitude-key conversions. Every shift of the Go code is a floor quotient `n * 2 ^ p / 2 ^ q` with
`s = p - q` (`arithShift_eq_ediv`, Lemmas/Core.lean); a closed form (Props/C12.lean) is reached by choosing `p` and `q` so that
numerator and denominator are those of the specification. Here: the `⌈·⌉ - 1` forms of the upper ends, then the existence
checks around the shifts.
-/
import SpatialId.Model.AltKey
import SpatialId.Lemmas.Core
import Mathlib.Algebra.Group.Basic
import Mathlib.Algebra.Group.Int.Defs
import Mathlib.Tactic.SplitIfs
namespace SpatialId

theorem pow_add_toNat (a b : Int) (ha : 0 ≤ a) (hb : 0 ≤ b) : (2 : Int) ^ (a + b).toNat = 2 ^ a.toNat * 2 ^ b.toNat :=
  two_pow_split _ _ _ (Int.toNat_add ha hb)

/-! `⌈top·2^s⌉ - 1` as one floor quotient (`s = p - q`): a left shift is exact, so the one is subtracted after it;
the floor of a right shift absorbs a one subtracted before it. -/

theorem shift_top_nonneg (top s : Int) (p q : Nat) (h : s = p - q) (h0 : 0 ≤ s) :
    arithShift top s - 1 = (top * 2 ^ p - 1) / 2 ^ q := by
  rw [← arithShift_mul_two_pow top s p q h h0, mul_sub_one_ediv _ _ (two_pow_pos q)]

theorem shift_top_nonpos (top s : Int) (p q : Nat) (h : s = p - q) (h0 : s ≤ 0) :
    arithShift (top - 1) s = (top * 2 ^ p - 1) / 2 ^ q := by
  rw [two_pow_split q p (-s).toNat (by omega), ← Int.ediv_ediv_of_nonneg (Int.le_of_lt (two_pow_pos p)),
    mul_sub_one_ediv _ _ (two_pow_pos p), arithShift_eq_ediv _ s 0 (-s).toNat (by omega), Int.pow_zero, Int.mul_one]

/-- as `convertZToMaxAltitudekey` writes it -/
theorem shift_top_ite (top s : Int) (p q : Nat) (h : s = p - q) :
    (if s < 0 then arithShift (top - 1) s else arithShift top s - 1) = (top * 2 ^ p - 1) / 2 ^ q := by
  split
  · exact shift_top_nonpos top s p q h (by omega)
  · exact shift_top_nonneg top s p q h (by omega)

/-- as `ConvertAltitudekeyToMinMaxZ` writes it, twice -/
theorem shift_succ_ite (n s : Int) (p q : Nat) (h : s = p - q) :
    (if s > 0 then arithShift (n + 1) s - 1 else arithShift n s) = ((n + 1) * 2 ^ p - 1) / 2 ^ q := by
  split
  · exact shift_top_nonneg (n + 1) s p q h (by omega)
  · rw [← shift_top_nonpos (n + 1) s p q h (by omega), Int.add_sub_cancel]

theorem validateIndex_eq (i z : Int) (neg : Bool) (hz : 0 ≤ z) :
    validateIndex i z neg = decide ((if neg then -(2 ^ z.toNat) else 0) ≤ i ∧ i ≤ 2 ^ z.toNat - 1) := by
  rw [validateIndex, arithShift_nonneg 1 z hz, Int.one_mul, Bool.eq_iff_iff]
  simp only [Bool.not_eq_true', Bool.or_eq_false_iff, decide_eq_false_iff_not, decide_eq_true_eq]
  omega

/-- the checks that `zToMinKey` and `zToMaxKey` share -/
theorem checked_key (f zi zo o r : Int) (hzi : 0 ≤ zi) (hzo : 0 ≤ zo) (hr : o = r) :
    (if !validateIndex f zi true then none else if !validateIndex o zo false then none else some o) =
      if (-(2 ^ zi.toNat) ≤ f ∧ f ≤ 2 ^ zi.toNat - 1) ∧ 0 ≤ r ∧ r ≤ 2 ^ zo.toNat - 1 then some r else none := by
  subst hr
  simp only [validateIndex_eq _ _ _ hzi, validateIndex_eq _ _ _ hzo, Bool.not_eq_true', decide_eq_false_iff_not, ite_not,
    ite_and, if_true, Bool.false_eq_true, if_false]

/-- `ConvertZToMinMaxAltitudekey` from its two halves: both keys must exist, and the repair of an inverted pair is dead code -/
theorem z2k_of_keys {f zi zo E O lo hi : Int} {A B C : Prop} [Decidable A] [Decidable B] [Decidable C]
    (hmin : zToMinKey f zi zo E O = if A ∧ B then some lo else none)
    (hmax : zToMaxKey f zi zo E O = if A ∧ C then some hi else none) (hle : lo ≤ hi) :
    z2k f zi zo E O = if A ∧ B ∧ C then .ok (lo, hi) else .err := by
  rw [z2k, hmin, hmax]
  by_cases hc : A ∧ B ∧ C
  · rw [if_pos ⟨hc.1, hc.2.1⟩, if_pos ⟨hc.1, hc.2.2⟩, if_pos hc]
    exact if_neg (Int.not_lt.mpr hle)
  · rw [if_neg hc]
    split_ifs with c1 c2 <;> first | rfl | exact absurd ⟨c1.1, c1.2, c2.2⟩ hc

/-- the checks of `k2z` -/
theorem checked_index (k zk zo a b lo hi : Int) (hzk : 0 ≤ zk) (hzo : 0 ≤ zo) (ha : a = lo) (hb : b = hi) :
    (if k > arithShift 1 zk - 1 ∨ k < 0 then Outcome.err else
      if b > arithShift 1 zo - 1 ∨ a < -arithShift 1 zo then .err else .ok (a, b)) =
      if (0 ≤ k ∧ k ≤ 2 ^ zk.toNat - 1) ∧ hi ≤ 2 ^ zo.toNat - 1 ∧ -(2 ^ zo.toNat) ≤ lo then .ok (lo, hi) else .err := by
  subst ha hb
  rw [arithShift_nonneg 1 zk hzk, arithShift_nonneg 1 zo hzo, Int.one_mul, Int.one_mul]
  split_ifs <;> first | rfl | omega

end SpatialId
