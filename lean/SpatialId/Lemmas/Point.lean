/-
Values of the point model (Model/Point.lean): its constants, the accepted form of `newPointLossy`, the longitudes of tile
edges, the column of a longitude on the half-tile grid, and the centre of a voxel as the midpoint of the extreme coordinates of
its vertices. All by value-level exactness (Lemmas/F64Val.lean): every intermediate result is representable, so nothing rounds.
-/
import SpatialId.Model.Point
import SpatialId.Lemmas.F64Val
namespace SpatialId
open F64

theorem c180_val : val c180 = 180 := by simp [val, c180]
theorem c360_val : val c360 = 360 := by simp [val, c360]
theorem c2_val : val c2 = 2 := by simp [val, c2]

theorem lon_ok {lon : Dy} (h : |val lon| ≤ 180) : lt c180 (F64.abs lon) = false := by
  rwa [lt_eq_false_iff, abs_val, c180_val]

theorem newPointLossy_ok {lon lat alt t : Dy} (h : lt c180 (F64.abs lon) = false) (hl : setLat lat = some t) :
    newPointLossy lon lat alt = ⟨lon, t, alt⟩ := by
  simp [newPointLossy, h, hl]

theorem newPointLossy_lon {lon lat alt : Dy} (h : lt c180 (F64.abs lon) = false) : (newPointLossy lon lat alt).lon = lon := by
  unfold newPointLossy
  rw [h]
  cases setLat lat <;> rfl

/-- **the column of a longitude on the half-tile grid**: `lon = 360·(j/2)/2^h − 180` (tile boundaries are the even `j`, tile centres
the odd ones) lies in column `j / 2`: the sum, the quotient and the scaled value are all representable, so nothing is rounded -/
theorem xIndex_half_grid (lon : Dy) (h j : Int) (hh : 0 ≤ h ∧ h ≤ 35) (hj : 0 ≤ j ∧ j < 2 * 2 ^ h.toNat)
    (hv : val lon = 360 * ((j : ℚ) / 2) / 2 ^ h.toNat - 180) : xIndex lon h = j / 2 := by
  have hp : (2 : Int) ^ h.toNat ≤ 2 ^ 35 := two_pow_le_of_le (by omega)
  have hpq : (0 : ℚ) < 2 ^ h.toNat := by positivity
  have hjq : (j : ℚ) < 2 * 2 ^ h.toNat := by exact_mod_cast hj.2
  have hne : F64.eq lon c180 = false := by
    rw [eq_eq_false_iff, hv, c180_val]
    have : 360 * ((j : ℚ) / 2) / 2 ^ h.toNat < 360 := by rw [div_lt_iff₀ hpq]; linarith
    linarith
  have h1 : val (add lon c180) = ((360 * j : Int) : ℚ) / 2 ^ (h.toNat + 1) :=
    add_val_eq (by rw [hv, c180_val, pow_succ]; push_cast; ring) (repVal_div_pow _ _ (by omega) (by omega))
  have h2 : val (div (add lon c180) c360) = (j : ℚ) / 2 ^ (h.toNat + 1) :=
    div_val_eq (by decide) (by rw [h1, c360_val]; push_cast; ring) (repVal_div_pow _ _ (by omega) (by omega))
  have h3 : val (scale (div (add lon c180) c360) h) = (j : ℚ) / 2 ^ 1 :=
    scale_val_eq (by rw [h2, two_zpow_toNat hh.1, pow_succ]; field_simp) (repVal_div_pow _ 1 (by omega) (by omega))
  rw [xIndex, hne]
  simp only [Bool.false_eq_true, if_false, floorInt_div_pow h3, pow_one]
  rw [if_neg (by omega)]

theorem edge_val (I : Dy) (i h : Int) (hh : 0 ≤ h ∧ h ≤ 35) (hi : 0 ≤ i ∧ i ≤ 2 ^ h.toNat) (hI : val I = (i : ℚ)) :
    val (sub (scale (mul I c360) (-h)) c180) = 360 * (i : ℚ) / 2 ^ h.toNat - 180 := by
  have hp : (2 : Int) ^ h.toNat ≤ 2 ^ 35 := two_pow_le_of_le (by omega)
  have h1 : val (mul I c360) = ((i * 360 : Int) : ℚ) :=
    mul_val_eq (by rw [hI, c360_val]; push_cast; ring) (repVal_int _ (by omega))
  have h2 : val (scale (mul I c360) (-h)) = ((i * 360 : Int) : ℚ) / 2 ^ h.toNat :=
    scale_val_eq (by rw [h1, zpow_neg, two_zpow_toNat hh.1]; rfl) (repVal_div_pow _ _ (by omega) (by omega))
  have e : 360 * (i : ℚ) / 2 ^ h.toNat - 180 = ((360 * i - 180 * 2 ^ h.toNat : Int) : ℚ) / 2 ^ h.toNat := by
    push_cast; field_simp
  exact sub_val_eq (by rw [h2, c180_val]; push_cast; ring) (e ▸ repVal_div_pow _ _ (by omega) (by omega))

theorem westLon_val (x h : Int) (hh : 0 ≤ h ∧ h ≤ 35) (hx : 0 ≤ x ∧ x < 2 ^ h.toNat) :
    val (westLon x h) = 360 * (x : ℚ) / 2 ^ h.toNat - 180 := by
  have hp : (2 : Int) ^ h.toNat ≤ 2 ^ 35 := two_pow_le_of_le (by omega)
  exact edge_val _ x h hh ⟨hx.1, Int.le_of_lt hx.2⟩ (ofInt_val_exact x (by omega))

theorem eastLon_val (x h : Int) (hh : 0 ≤ h ∧ h ≤ 35) (hx : 0 ≤ x ∧ x < 2 ^ h.toNat) :
    val (eastLon x h) = 360 * ((x + 1 : Int) : ℚ) / 2 ^ h.toNat - 180 := by
  have hp : (2 : Int) ^ h.toNat ≤ 2 ^ 35 := two_pow_le_of_le (by omega)
  refine edge_val _ (x + 1) h hh (by omega) (add_val_eq ?_ (repVal_int _ (by omega)))
  rw [ofInt_val_exact x (by omega)]; simp [val]

theorem dyMax_spec (l : List Dy) (d : Dy) :
    (dyMax l d = d ∨ ∃ x ∈ l, dyMax l d = x) ∧ val d ≤ val (dyMax l d) ∧ ∀ x ∈ l, val x ≤ val (dyMax l d) :=
  foldl_select (fun a b : Dy => val a ≤ val b) id (fun m x => lt m x = true) (fun _ => le_refl _) le_trans
    (fun _ _ => val_le_of_lt) (fun _ _ => val_le_of_not_lt) l d

theorem dyMin_spec (l : List Dy) (d : Dy) :
    (dyMin l d = d ∨ ∃ x ∈ l, dyMin l d = x) ∧ val (dyMin l d) ≤ val d ∧ ∀ x ∈ l, val (dyMin l d) ≤ val x :=
  foldl_select (fun a b : Dy => val b ≤ val a) id (fun m x => lt x m = true) (fun _ => le_refl _) (fun h h' => le_trans h' h)
    (fun _ _ => val_le_of_lt) (fun _ _ => val_le_of_not_lt) l d

/-- only the midpoint is assumed representable: then so is the sum, its double, and neither the addition nor the halving rounds -/
theorem centreMid_val (x h f v : Int) (n s : Dy) (g : GeoPt → Dy) (a b : ℚ) (ps : List GeoPt)
    (hps : vertices x h f v n s = ps) (hab : a ≤ b) (hg : ∀ p ∈ ps, val (g p) = a ∨ val (g p) = b)
    (ha : ∃ p ∈ ps, val (g p) = a) (hb : ∃ p ∈ ps, val (g p) = b) (hm : RepVal ((b + a) / 2)) :
    val (centreMid x h f v n s g) = (b + a) / 2 := by
  have hs : RepVal (b + a) := by
    have := repVal_mul_pow _ hm 1 (by decide)
    rwa [zpow_one, div_mul_cancel₀ _ two_ne] at this
  obtain ⟨p0, rest, hv, hc⟩ : ∃ p0 rest, vertices x h f v n s = p0 :: rest ∧ centreMid x h f v n s g =
      div (add (dyMax ((p0 :: rest).map g) (g p0)) (dyMin ((p0 :: rest).map g) (g p0))) c2 := ⟨_, _, rfl, rfl⟩
  rw [hc]
  rw [← hps, hv] at hg ha hb
  -- both extremes are coordinates of vertices, so their values are `a` or `b`; they bound the vertices that take `b`, `a`
  have hmem : ∀ {r : Dy}, (r = g p0 ∨ ∃ y ∈ (p0 :: rest).map g, r = y) → val r = a ∨ val r = b := by
    rintro r (rfl | ⟨y, hy, rfl⟩)
    · exact hg p0 List.mem_cons_self
    · obtain ⟨p, hp, rfl⟩ := List.mem_map.mp hy; exact hg p hp
  obtain ⟨M1, -, M3⟩ := dyMax_spec ((p0 :: rest).map g) (g p0)
  obtain ⟨m1, -, m3⟩ := dyMin_spec ((p0 :: rest).map g) (g p0)
  obtain ⟨pa, hpa, ea⟩ := ha
  obtain ⟨pb, hpb, eb⟩ := hb
  have hM : val (dyMax ((p0 :: rest).map g) (g p0)) = b := by
    have := M3 _ (List.mem_map_of_mem hpb); rw [eb] at this
    rcases hmem M1 with h | h
    · rw [h] at this ⊢; exact le_antisymm hab this
    · exact h
  have hmn : val (dyMin ((p0 :: rest).map g) (g p0)) = a := by
    have := m3 _ (List.mem_map_of_mem hpa); rw [ea] at this
    rcases hmem m1 with h | h
    · exact h
    · rw [h] at this ⊢; exact le_antisymm this hab
  exact div_val_eq (by decide) (by rw [add_val_eq (by rw [hM, hmn]) hs, c2_val]) hm

end SpatialId
