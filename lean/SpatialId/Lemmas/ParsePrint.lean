/-
The string layer of IDs is lossless: printing an ID and parsing it back gives the ID, for every int64 component.
  parseInt64 (fmtInt i) = some i        (strconv.ParseInt ∘ strconv.FormatInt on the int64 range)
  splitSlash (joinSlash l) = l          (strings.Split ∘ strings.Join when no field contains '/')
  parseExt e.id = some e
-/
import SpatialId.Lemmas.Core
namespace SpatialId

theorem digitVal_of_isDigit (c : Char) (h : c.isDigit) : digitVal c = some (c.toNat - '0'.toNat) := by
  simp only [Char.isDigit, Bool.and_eq_true, decide_eq_true_eq] at h
  exact if_pos ⟨h.1, h.2⟩

theorem parseDigits_eq (cs : List Char) (acc : Nat) (h : ∀ c ∈ cs, c.isDigit) :
    parseDigits cs acc = some (Nat.ofDigitChars 10 cs acc) := by
  induction cs generalizing acc with
  | nil => simp [parseDigits]
  | cons c cs ih =>
    obtain ⟨hc, hcs⟩ := List.forall_mem_cons.mp h
    simp only [parseDigits, digitVal_of_isDigit c hc, Nat.ofDigitChars_cons]
    rw [ih _ hcs, Nat.mul_comm]

theorem isDigit_of_mem_toDigits {n : Nat} {c : Char} (h : c ∈ Nat.toDigits 10 n) : c.isDigit :=
  Nat.isDigit_of_mem_toDigits (by decide) (by decide) h

theorem parseDigits_toDigits (n : Nat) : parseDigits (Nat.toDigits 10 n) 0 = some n := by
  rw [parseDigits_eq _ _ (fun _ => isDigit_of_mem_toDigits), Nat.ofDigitChars_ten_toDigits]

theorem parseInt64Chars_sign_digits (neg : Prop) [Decidable neg] (ds : List Char) (n : Nat)
    (hd : parseDigits ds 0 = some n) (hne : ds ≠ []) :
    parseInt64Chars ((if neg then ['-'] else []) ++ ds) =
      (let v : Int := if neg then -(n : Int) else n
       if -(2 ^ 63 : Int) ≤ v ∧ v < 2 ^ 63 then some v else none) := by
  unfold parseInt64Chars
  split
  next neg' ds' heq =>
    -- stripping the sign gives back `neg` and `ds`: a string that `parseDigits` accepts does not begin with a sign itself
    have : (neg', ds') = (decide neg, ds) := by
      rw [← heq]
      by_cases h : neg
      · simp [h]
      · simp only [if_neg h, List.nil_append, decide_eq_false h]
        split
        · simp [parseDigits, digitVal] at hd
        · simp [parseDigits, digitVal] at hd
        · rfl
    obtain ⟨rfl, rfl⟩ := Prod.mk.inj this
    simp [hne, hd]

/-- the characters of `strconv.FormatInt(i, 10)`: `-` for a negative number, then the decimal digits of `|i|` -/
theorem fmtInt_toList (i : Int) :
    (fmtInt i).toList = (if i < 0 then ['-'] else []) ++ Nat.toDigits 10 i.natAbs := by
  match i with
  | .ofNat m =>
    rw [if_neg (show ¬ Int.ofNat m < 0 from Int.not_lt.2 (Int.natCast_nonneg m))]
    exact Nat.toList_repr
  | .negSucc m =>
    rw [if_pos (Int.negSucc_lt_zero m)]
    exact String.toList_append.trans (congrArg _ Nat.toList_repr)

/-- `strconv.ParseInt(strconv.FormatInt(i, 10), 10, 64) = i` for every int64 `i`. -/
theorem parseInt64_fmtInt (i : Int) (hlo : -(2 ^ 63 : Int) ≤ i) (hhi : i < 2 ^ 63) : parseInt64 (fmtInt i) = some i := by
  have hv : (if i < 0 then -(i.natAbs : Int) else i.natAbs) = i := by split <;> omega
  rw [parseInt64, fmtInt_toList, parseInt64Chars_sign_digits _ _ _ (parseDigits_toDigits _) Nat.toDigits_ne_nil]
  simp only [hv, hlo, hhi, and_self, if_true]

theorem slash_not_in_fmtInt (i : Int) : '/' ∉ (fmtInt i).toList := by
  rw [fmtInt_toList, List.mem_append, not_or]
  exact ⟨by split <;> simp, fun h => absurd (isDigit_of_mem_toDigits h) (by decide)⟩

/-- `strings.Split(strings.Join(l, "/"), "/") = l` when no field contains `/` (and `l` is not empty). -/
theorem splitSlash_joinSlash (l : List String) (hne : l ≠ []) (h : ∀ s ∈ l, '/' ∉ s.toList) :
    splitSlash (joinSlash l) = l := by
  unfold splitSlash joinSlash
  have e : ("/" : String) = String.singleton '/' := rfl
  rw [e, String.toList_split_intercalate h]
  simp [hne]

theorem splitSlash_joinSlash_fmtInt (is : List Int) (hne : is ≠ []) :
    splitSlash (joinSlash (is.map fmtInt)) = is.map fmtInt := by
  refine splitSlash_joinSlash _ (mt List.map_eq_nil_iff.mp hne) fun s hs => ?_
  obtain ⟨i, _, rfl⟩ := List.mem_map.mp hs
  exact slash_not_in_fmtInt i

theorem splitSlash_id (e : Ext) : splitSlash e.id = [fmtInt e.h, fmtInt e.x, fmtInt e.y, fmtInt e.v, fmtInt e.f] :=
  splitSlash_joinSlash_fmtInt [e.h, e.x, e.y, e.v, e.f] (List.cons_ne_nil _ _)

theorem splitSlash_spId (e : Ext) : splitSlash e.spId = [fmtInt e.h, fmtInt e.f, fmtInt e.x, fmtInt e.y] :=
  splitSlash_joinSlash_fmtInt [e.h, e.f, e.x, e.y] (List.cons_ne_nil _ _)

def Ext.int64 (e : Ext) : Prop :=
  (-(2 ^ 63 : Int) ≤ e.h ∧ e.h < 2 ^ 63) ∧ (-(2 ^ 63 : Int) ≤ e.x ∧ e.x < 2 ^ 63) ∧ (-(2 ^ 63 : Int) ≤ e.y ∧ e.y < 2 ^ 63) ∧
  (-(2 ^ 63 : Int) ≤ e.v ∧ e.v < 2 ^ 63) ∧ (-(2 ^ 63 : Int) ≤ e.f ∧ e.f < 2 ^ 63)

theorem parseExt_id (e : Ext) (h : e.int64) : parseExt e.id = some e := by
  obtain ⟨h1, h2, h3, h4, h5⟩ := h
  simp only [parseExt, splitSlash_id, parseInt64_fmtInt _ h1.1 h1.2, parseInt64_fmtInt _ h2.1 h2.2,
    parseInt64_fmtInt _ h3.1 h3.2, parseInt64_fmtInt _ h4.1 h4.2, parseInt64_fmtInt _ h5.1 h5.2]

theorem Ext.valid.int64 {e : Ext} (h : e.valid) : e.int64 := by
  unfold Ext.valid at h
  -- a valid zoom is at most 35, so every index is below `2^35` in absolute value
  have ph : (2 : Int) ^ e.h.toNat ≤ 2 ^ 35 := two_pow_le_of_le (by omega)
  have pv : (2 : Int) ^ e.v.toNat ≤ 2 ^ 35 := two_pow_le_of_le (by omega)
  unfold Ext.int64
  omega

end SpatialId
