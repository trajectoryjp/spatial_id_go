/-
C12 — altitude-key conversion never loses altitude and is exact where it can be.
Model: SpatialId/Model/AltKey.lean (`z2k`, `k2z`, `zToMinKey`, `zToMaxKey`, `validateIndex`), tied to
transform.ConvertZToMinMaxAltitudekey, ConvertAltitudekeyToMinMaxZ, convertZToMinAltitudekey,
convertZToMaxAltitudekey, validateIndexExists by the op families altkey and altkeyLattice, and by the
translator tie (Props/Tie/Z2K.lean, K2Z.lean, Shift.lean).  Semantics: Spec/Altitude.lean (fixed-point altitude intervals).
-/
import SpatialId.Lemmas.AltKey
import SpatialId.Spec.Altitude
namespace SpatialId.C12
open SpatialId Alt

/-- zooms and base exponent in the documented range -/
def zr (z : Int) : Prop := 0 ≤ z ∧ z ≤ 35

/-- lower end of the result: first key meeting the metre-widened voxel (`convertZToMinAltitudekey` goes through whole metres
first: `arithShift f (25 - zi)` floors; the upper end, D5 fixed, is computed exactly) -/
def zLo (f zi zo E O : Int) : Int := ((widen (fCell f zi)).1 + O * M) / 2 ^ (E - zo + 35).toNat
/-- upper end of the result: last key meeting the voxel itself -/
def zHi (f zi zo E O : Int) : Int := ((fCell f zi).2 + O * M - 1) / 2 ^ (E - zo + 35).toNat
/-- first key meeting the voxel itself -/
def zLoExact (f zi zo E O : Int) : Int := ((fCell f zi).1 + O * M) / 2 ^ (E - zo + 35).toNat
/-- last key meeting the metre-widened voxel -/
def zHiWide (f zi zo E O : Int) : Int := ((widen (fCell f zi)).2 + O * M - 1) / 2 ^ (E - zo + 35).toNat

theorem bounds_order (f zi zo E O : Int) :
    zLo f zi zo E O ≤ zLoExact f zi zo E O ∧ zLoExact f zi zo E O ≤ zHi f zi zo E O ∧
    zHi f zi zo E O ≤ zHiWide f zi zo E O := by
  have hc := two_pow_pos (E - zo + 35).toNat
  have h := fCell_lt f zi
  exact ⟨Int.ediv_le_ediv hc (Int.add_le_add_right (widen_lo_le _) _), Int.ediv_le_ediv hc (by omega),
    Int.ediv_le_ediv hc (Int.sub_le_sub_right (Int.add_le_add_right (widen_hi_ge _) _) _)⟩

theorem zToMinKey_eq (f zi zo E O : Int) (h1 : zr zi) (h2 : zr zo) (h3 : zr E) :
    zToMinKey f zi zo E O =
      if (-(2 ^ zi.toNat) ≤ f ∧ f ≤ 2 ^ zi.toNat - 1) ∧ 0 ≤ zLo f zi zo E O ∧ zLo f zi zo E O ≤ 2 ^ zo.toNat - 1
      then some (zLo f zi zo E O) else none := by
  unfold zr at h1 h2 h3
  -- unifying with the text of the model leaves: the shifted value is `zLo`
  refine checked_key f zi zo _ _ h1.1 h2.1 ?_
  rw [zLo, arithShift_eq_ediv _ (zo - E) 35 (E - zo + 35).toNat (by omega), Int.add_mul,
    arithShift_eq_ediv f _ (60 - zi).toNat 35 (by omega)]
  rfl

theorem zToMaxKey_eq (f zi zo E O : Int) (h1 : zr zi) (h2 : zr zo) (h3 : zr E) :
    zToMaxKey f zi zo E O =
      if (-(2 ^ zi.toNat) ≤ f ∧ f ≤ 2 ^ zi.toNat - 1) ∧ 0 ≤ zHi f zi zo E O ∧ zHi f zi zo E O ≤ 2 ^ zo.toNat - 1
      then some (zHi f zi zo E O) else none := by
  unfold zr at h1 h2 h3
  refine checked_key f zi zo _ _ h1.1 h2.1 ?_
  by_cases hd : 25 - zi < 0
  · simp only [hd, if_true]
    rw [zHi, shift_top_ite _ _ (60 - zi).toNat (E - zo + 35).toNat (by omega), Int.add_mul,
      arithShift_mul_two_pow O _ 35 (60 - zi).toNat (by omega) (by omega)]
    rfl
  · simp only [hd, if_false]
    rw [zHi, shift_top_ite _ _ 35 (E - zo + 35).toNat (by omega), Int.add_mul,
      arithShift_mul_two_pow (f + 1) _ (60 - zi).toNat 35 (by omega) (by omega)]
    rfl

/-- **z2k_eq**: the function returns `(zLo, zHi)` — or an error exactly when the source index does not exist or
one of the two ends is not a key of the target zoom -/
theorem z2k_eq (f zi zo E O : Int) (h1 : zr zi) (h2 : zr zo) (h3 : zr E) :
    z2k f zi zo E O =
      if (-(2 ^ zi.toNat) ≤ f ∧ f ≤ 2 ^ zi.toNat - 1) ∧
         (0 ≤ zLo f zi zo E O ∧ zLo f zi zo E O ≤ 2 ^ zo.toNat - 1) ∧
         (0 ≤ zHi f zi zo E O ∧ zHi f zi zo E O ≤ 2 ^ zo.toNat - 1)
      then .ok (zLo f zi zo E O, zHi f zi zo E O) else .err :=
  have hord := bounds_order f zi zo E O
  z2k_of_keys (zToMinKey_eq f zi zo E O h1 h2 h3) (zToMaxKey_eq f zi zo E O h1 h2 h3) (Int.le_trans hord.1 hord.2.1)

theorem z2k_ok (f zi zo E O a b : Int) (h1 : zr zi) (h2 : zr zo) (h3 : zr E) (h : z2k f zi zo E O = .ok (a, b)) :
    a = zLo f zi zo E O ∧ b = zHi f zi zo E O := by
  rw [z2k_eq f zi zo E O h1 h2 h3] at h
  split at h <;> cases h
  exact ⟨rfl, rfl⟩

/-- **z2k_contains** — never loses altitude: every key whose cell meets the voxel's altitude interval is in the range -/
theorem z2k_contains (f zi zo E O a b : Int) (h1 : zr zi) (h2 : zr zo) (h3 : zr E)
    (h : z2k f zi zo E O = .ok (a, b)) (j : Int) (hj : inter (keyCell j zo E O) (fCell f zi)) : a ≤ j ∧ j ≤ b := by
  obtain ⟨rfl, rfl⟩ := z2k_ok f zi zo E O a b h1 h2 h3 h
  have hj' := (keyCell_inter_iff j zo E O _ (fCell_lt f zi)).mp hj
  exact ⟨Int.le_trans (bounds_order f zi zo E O).1 hj'.1, hj'.2⟩

/-- **z2k_within** — no key beyond those meeting the interval widened outward to whole metres -/
theorem z2k_within (f zi zo E O a b : Int) (h1 : zr zi) (h2 : zr zo) (h3 : zr E)
    (h : z2k f zi zo E O = .ok (a, b)) (j : Int) (hj : a ≤ j ∧ j ≤ b) : inter (keyCell j zo E O) (widen (fCell f zi)) := by
  obtain ⟨rfl, rfl⟩ := z2k_ok f zi zo E O a b h1 h2 h3 h
  exact (keyCell_inter_iff j zo E O _ (widen_lt (fCell_lt f zi))).mpr
    ⟨hj.1, Int.le_trans hj.2 (bounds_order f zi zo E O).2.2⟩

theorem z2k_min_le_max (f zi zo E O a b : Int) (h1 : zr zi) (h2 : zr zo) (h3 : zr E)
    (h : z2k f zi zo E O = .ok (a, b)) : a ≤ b := by
  obtain ⟨rfl, rfl⟩ := z2k_ok f zi zo E O a b h1 h2 h3 h
  have := bounds_order f zi zo E O; omega

theorem fCell_whole (f z : Int) (hz : z ≤ 25) : widen (fCell f z) = fCell f z := by
  have hM := M_dvd_two_pow (60 - z).toNat (by omega)
  exact widen_eq_of_dvd (Int.dvd_mul_of_dvd_right hM) (Int.dvd_mul_of_dvd_right hM)

/-- **z2k_exact_ge1m** — exact whenever the source cell is at least one metre tall -/
theorem z2k_exact_ge1m (f zi zo E O a b : Int) (h1 : zr zi) (h2 : zr zo) (h3 : zr E) (hz : zi ≤ 25)
    (h : z2k f zi zo E O = .ok (a, b)) (j : Int) : (a ≤ j ∧ j ≤ b) ↔ inter (keyCell j zo E O) (fCell f zi) := by
  constructor
  · intro hj; have := z2k_within f zi zo E O a b h1 h2 h3 h j hj; rwa [fCell_whole f zi hz] at this
  · exact z2k_contains f zi zo E O a b h1 h2 h3 h j

/-- **z2k errors (1)**: a source index that does not exist at its zoom is an error -/
theorem z2k_err_bad_index (f zi zo E O : Int) (h1 : zr zi) (h2 : zr zo) (h3 : zr E)
    (h : ¬ (-(2 ^ zi.toNat) ≤ f ∧ f ≤ 2 ^ zi.toNat - 1)) : z2k f zi zo E O = .err := by
  rw [z2k_eq f zi zo E O h1 h2 h3, if_neg (fun hc => h hc.1)]

/-- **z2k errors (2)**: if the exact covering range leaves the key range of the target zoom, an error is reported -/
theorem z2k_err_exact_leaves (f zi zo E O : Int) (h1 : zr zi) (h2 : zr zo) (h3 : zr E)
    (h : zLoExact f zi zo E O < 0 ∨ 2 ^ zo.toNat - 1 < zHi f zi zo E O) : z2k f zi zo E O = .err := by
  rw [z2k_eq f zi zo E O h1 h2 h3, if_neg]
  have := bounds_order f zi zo E O
  omega

/-- **z2k errors (3)**: never an error when the index exists and even the metre-widened range fits -/
theorem z2k_ok_when_wide_fits (f zi zo E O : Int) (h1 : zr zi) (h2 : zr zo) (h3 : zr E)
    (hf : -(2 ^ zi.toNat) ≤ f ∧ f ≤ 2 ^ zi.toNat - 1)
    (h : 0 ≤ zLo f zi zo E O ∧ zHiWide f zi zo E O ≤ 2 ^ zo.toNat - 1) :
    z2k f zi zo E O = .ok (zLo f zi zo E O, zHi f zi zo E O) := by
  rw [z2k_eq f zi zo E O h1 h2 h3, if_pos]
  have := bounds_order f zi zo E O
  omega

/-- first and last index of zoom `zo` meeting the metre-widened key cell -/
def kLo (k zk zo E O : Int) : Int := (widen (keyCell k zk E O)).1 / 2 ^ (60 - zo).toNat
def kHi (k zk zo E O : Int) : Int := ((widen (keyCell k zk E O)).2 - 1) / 2 ^ (60 - zo).toNat

/-- **k2z_eq**: the function returns exactly the cover of the metre-widened key cell — or an error when the key does
not exist or that cover leaves the index range of the target zoom -/
theorem k2z_eq (k zk zo E O : Int) (h1 : zr zk) (h2 : zr zo) (h3 : zr E) :
    k2z k zk zo E O =
      if (0 ≤ k ∧ k ≤ 2 ^ zk.toNat - 1) ∧ kHi k zk zo E O ≤ 2 ^ zo.toNat - 1 ∧ -(2 ^ zo.toNat) ≤ kLo k zk zo E O
      then .ok (kLo k zk zo E O, kHi k zk zo E O) else .err := by
  unfold zr at h1 h2 h3
  have hM := Int.ne_of_gt M_pos
  refine checked_index k zk zo _ _ _ _ h1.1 h2.1 ?_ ?_
  · rw [kLo, widen_fst, keyCell, Int.sub_mul_ediv_right _ _ hM,
      arithShift_eq_ediv _ (zo - 25) 35 (60 - zo).toNat (by omega),
      arithShift_eq_ediv k (E - zk) (E - zk + 35).toNat 35 (by omega)]
    rfl
  · rw [kHi, widen_snd, keyCell, sub_right_comm, Int.sub_mul_ediv_right _ _ hM,
      shift_succ_ite _ (zo - 25) 35 (60 - zo).toNat (by omega),
      shift_succ_ite k (E - zk) (E - zk + 35).toNat 35 (by omega)]
    rfl

theorem k2z_ok (k zk zo E O a b : Int) (h1 : zr zk) (h2 : zr zo) (h3 : zr E) (h : k2z k zk zo E O = .ok (a, b)) :
    a = kLo k zk zo E O ∧ b = kHi k zk zo E O := by
  rw [k2z_eq k zk zo E O h1 h2 h3] at h
  split at h <;> cases h
  exact ⟨rfl, rfl⟩

/-- **k2z_coverW**: the returned range is exactly the set of vertical indices whose cell meets the metre-widened key cell -/
theorem k2z_coverW (k zk zo E O a b : Int) (h1 : zr zk) (h2 : zr zo) (h3 : zr E) (h : k2z k zk zo E O = .ok (a, b))
    (g : Int) : (a ≤ g ∧ g ≤ b) ↔ inter (fCell g zo) (widen (keyCell k zk E O)) := by
  obtain ⟨rfl, rfl⟩ := k2z_ok k zk zo E O a b h1 h2 h3 h
  exact (fCell_inter_iff g zo _ (widen_lt (keyCell_lt k zk E O))).symm

/-- **k2z_contains** — never loses altitude -/
theorem k2z_contains (k zk zo E O a b : Int) (h1 : zr zk) (h2 : zr zo) (h3 : zr E) (h : k2z k zk zo E O = .ok (a, b))
    (g : Int) (hg : inter (fCell g zo) (keyCell k zk E O)) : a ≤ g ∧ g ≤ b :=
  (k2z_coverW k zk zo E O a b h1 h2 h3 h g).mpr (inter_mono (widen_lo_le _) (widen_hi_ge _) hg)

theorem keyCell_whole (k z E O : Int) (hz : z ≤ E) : widen (keyCell k z E O) = keyCell k z E O := by
  have hM := M_dvd_two_pow (E - z + 35).toNat (by omega)
  exact widen_eq_of_dvd (Int.dvd_sub (Int.dvd_mul_of_dvd_right hM) (Int.dvd_mul_left O M))
    (Int.dvd_sub (Int.dvd_mul_of_dvd_right hM) (Int.dvd_mul_left O M))

/-- **k2z_exact_ge1m** -/
theorem k2z_exact_ge1m (k zk zo E O a b : Int) (h1 : zr zk) (h2 : zr zo) (h3 : zr E) (hz : zk ≤ E)
    (h : k2z k zk zo E O = .ok (a, b)) (g : Int) : (a ≤ g ∧ g ≤ b) ↔ inter (fCell g zo) (keyCell k zk E O) := by
  rw [k2z_coverW k zk zo E O a b h1 h2 h3 h g, keyCell_whole k zk E O hz]

theorem k2z_min_le_max (k zk zo E O a b : Int) (h1 : zr zk) (h2 : zr zo) (h3 : zr E)
    (h : k2z k zk zo E O = .ok (a, b)) : a ≤ b := by
  obtain ⟨rfl, rfl⟩ := k2z_ok k zk zo E O a b h1 h2 h3 h
  have := widen_lt (keyCell_lt k zk E O)
  exact Int.ediv_le_ediv (two_pow_pos _) (by omega)

theorem k2z_err_bad_key (k zk zo E O : Int) (h1 : zr zk) (h2 : zr zo) (h3 : zr E)
    (h : ¬ (0 ≤ k ∧ k ≤ 2 ^ zk.toNat - 1)) : k2z k zk zo E O = .err := by
  rw [k2z_eq k zk zo E O h1 h2 h3, if_neg (fun hc => h hc.1)]

/-- **consistent_exact** — in the exact regime (both cells at least one metre tall) the two directions agree:
a key is in the range of `f` iff `f` is in the range of the key -/
theorem consistent_exact (f zi k zk E O a b a' b' : Int) (h1 : zr zi) (h2 : zr zk) (h3 : zr E)
    (hzi : zi ≤ 25) (hzk : zk ≤ E)
    (hz : z2k f zi zk E O = .ok (a, b)) (hk : k2z k zk zi E O = .ok (a', b')) :
    (a ≤ k ∧ k ≤ b) ↔ (a' ≤ f ∧ f ≤ b') := by
  rw [z2k_exact_ge1m f zi zk E O a b h1 h2 h3 hzi hz k, k2z_exact_ge1m k zk zi E O a' b' h2 h1 h3 hzk hk f]
  exact inter_symm _ _

/-! regression witnesses of D5: the partial top cell is kept, the top index is accepted -/
example : z2k 0 1 1 25 1 = .ok (0, 1) := by decide
example : z2k 0 0 0 25 0 = .ok (0, 0) := by decide
example : z2k 56 26 26 25 0 = .ok (56, 56) := by decide
example : k2z 5 3 25 3 0 = .ok (5, 5) := by decide

end SpatialId.C12
