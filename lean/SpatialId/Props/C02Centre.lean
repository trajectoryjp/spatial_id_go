/-
C02 (centre) — converting the centre of a voxel back to an ID returns the voxel's own x and f index, on the bit-exact binary64
model, for every valid column / vertical index and every zoom 0..35. Every intermediate value of the computation is
representable, so no rounding occurs (value-level exactness lemmas of Lemmas/F64Val); the row (y) part depends on the
latitude oracle and is checked on the implementation (`ctrrt`).
Also: the general form of C01's `x_on_boundaries` — a longitude that is exactly a tile boundary gets that tile's column.
-/
import SpatialId.Lemmas.Point
namespace SpatialId.C02
open SpatialId F64

theorem wrapLon_id (x h : Int) (hx : 0 ≤ x ∧ x < 2 ^ h.toNat) : wrapLon x h = x := by
  unfold wrapLon
  simp only []
  split
  · exact Int.emod_eq_of_lt hx.1 hx.2
  · rfl

theorem vertices_eq (x h f v : Int) (n s : Dy) (hx : 0 ≤ x ∧ x < 2 ^ h.toNat) :
    vertices x h f v n s =
      [newPointLossy (westLon x h) n (altOf f v).1, newPointLossy (eastLon x h) n (altOf f v).1,
       newPointLossy (eastLon x h) s (altOf f v).1, newPointLossy (westLon x h) s (altOf f v).1,
       newPointLossy (westLon x h) n (add (altOf f v).1 (altOf f v).2), newPointLossy (eastLon x h) n (add (altOf f v).1 (altOf f v).2),
       newPointLossy (eastLon x h) s (add (altOf f v).1 (altOf f v).2), newPointLossy (westLon x h) s (add (altOf f v).1 (altOf f v).2)] := by
  simp only [vertices, wrapLon_id x h hx]

theorem edges (x h : Int) (hh : 0 ≤ h ∧ h ≤ 35) (hx : 0 ≤ x ∧ x < 2 ^ h.toNat) :
    val (westLon x h) = 360 * (x : ℚ) / 2 ^ h.toNat - 180 ∧ val (eastLon x h) = 360 * ((x : ℚ) + 1) / 2 ^ h.toNat - 180 ∧
    -180 ≤ val (westLon x h) ∧ val (westLon x h) < val (eastLon x h) ∧ val (eastLon x h) ≤ 180 := by
  have hpq : (0 : ℚ) < 2 ^ h.toNat := by positivity
  have hx0 : (0 : ℚ) ≤ x := by exact_mod_cast hx.1
  have hx1 : (x : ℚ) + 1 ≤ 2 ^ h.toNat := by exact_mod_cast (show x + 1 ≤ 2 ^ h.toNat by omega)
  have hw := westLon_val x h hh hx
  have he := eastLon_val x h hh hx
  push_cast at he
  refine ⟨hw, he, ?_, ?_, ?_⟩
  · rw [hw]; have : 0 ≤ 360 * (x : ℚ) / 2 ^ h.toNat := by positivity
    linarith
  · rw [hw, he]; have := div_lt_div_of_pos_right (show 360 * (x : ℚ) < 360 * ((x : ℚ) + 1) by linarith) hpq
    linarith
  · rw [he]; have : 360 * ((x : ℚ) + 1) / 2 ^ h.toNat ≤ 360 := by rw [div_le_iff₀ hpq]; linarith
    linarith

theorem edges_ok (x h : Int) (hh : 0 ≤ h ∧ h ≤ 35) (hx : 0 ≤ x ∧ x < 2 ^ h.toNat) :
    lt c180 (F64.abs (westLon x h)) = false ∧ lt c180 (F64.abs (eastLon x h)) = false := by
  obtain ⟨-, -, e1, e2, e3⟩ := edges x h hh hx
  exact ⟨lon_ok (abs_le.mpr ⟨e1, by linarith⟩), lon_ok (abs_le.mpr ⟨by linarith, e3⟩)⟩

theorem centreMid_lon (x h f v : Int) (n s : Dy) (hh : 0 ≤ h ∧ h ≤ 35) (hx : 0 ≤ x ∧ x < 2 ^ h.toNat) :
    val (centreMid x h f v n s (·.lon)) = 360 * (((2 * x + 1 : Int) : ℚ) / 2) / 2 ^ h.toNat - 180 ∧
    lt c180 (F64.abs (centreMid x h f v n s (·.lon))) = false := by
  have hp : (2 : Int) ^ h.toNat ≤ 2 ^ 35 := two_pow_le_of_le (by omega)
  obtain ⟨hw, he, e1, e2, e3⟩ := edges x h hh hx
  obtain ⟨wok, eok⟩ := edges_ok x h hh hx
  have hq : (val (eastLon x h) + val (westLon x h)) / 2 = 360 * (((2 * x + 1 : Int) : ℚ) / 2) / 2 ^ h.toNat - 180 := by
    rw [hw, he]; push_cast; ring
  -- the longitudes of the vertices are west (vertex 0) and east (vertex 1); the midpoint `(180(2x+1) − 180·2^h) / 2^h` is a binary64 value
  have hmid : val (centreMid x h f v n s (·.lon)) = (val (eastLon x h) + val (westLon x h)) / 2 := by
    refine centreMid_val x h f v n s _ _ _ _ (vertices_eq x h f v n s hx) e2.le ?_
      ⟨_, List.mem_cons_self, by rw [newPointLossy_lon wok]⟩
      ⟨_, List.mem_cons_of_mem _ List.mem_cons_self, by rw [newPointLossy_lon eok]⟩ ?_
    · simp [newPointLossy_lon wok, newPointLossy_lon eok]
    · rw [hq, show 360 * (((2 * x + 1 : Int) : ℚ) / 2) / 2 ^ h.toNat - 180 =
        ((180 * (2 * x + 1) - 180 * 2 ^ h.toNat : Int) : ℚ) / 2 ^ h.toNat by push_cast; field_simp; ring]
      exact repVal_div_pow _ _ (by omega) (by omega)
  exact ⟨hmid.trans hq, lon_ok (by rw [hmid]; exact abs_le.mpr ⟨by linarith, by linarith⟩)⟩

/-- **the column of an exact tile boundary** (general form of C01's table `x_on_boundaries`): a longitude whose value is
`360·k/2^h − 180` with `0 ≤ k < 2^h`, `h ≤ 35`, gets column `k` -/
theorem x_exact_on_boundaries (lon : Dy) (k h : Int) (hh : 0 ≤ h ∧ h ≤ 35) (hk : 0 ≤ k ∧ k < 2 ^ h.toNat)
    (hv : val lon = 360 * (k : ℚ) / (2 : ℚ) ^ h.toNat - 180) : xIndex lon h = k := by
  rw [xIndex_half_grid lon h (2 * k) hh (by omega) (by rw [hv]; push_cast; ring)]
  omega

/-- **centre_roundtrip_x**: the column of the centre of column `x` is `x`, for every valid column at every zoom 0..35 -/
theorem centre_roundtrip_x (x h f v : Int) (n s : Dy) (hh : 0 ≤ h ∧ h ≤ 35) (hx : 0 ≤ x ∧ x < 2 ^ h.toNat) :
    xIndex (centre x h f v n s).lon h = x := by
  obtain ⟨hv, ok⟩ := centreMid_lon x h f v n s hh hx
  rw [centre, newPointLossy_lon ok, xIndex_half_grid _ h (2 * x + 1) hh (by omega) hv]
  omega

/-- `hn`, `hs`: when a row latitude is rejected the vertex code leaves the altitudes at 0 (`newPointLossy`) -/
theorem centreMid_alt (x h f v : Int) (n s tn ts : Dy) (hh : 0 ≤ h ∧ h ≤ 35) (hx : 0 ≤ x ∧ x < 2 ^ h.toNat)
    (hv : 0 ≤ v ∧ v ≤ 35) (hf : f.natAbs < 2 ^ 52) (hn : setLat n = some tn) (hs : setLat s = some ts) :
    val (centreMid x h f v n s (·.alt)) = ((2 * f + 1 : Int) : ℚ) * (2 : ℚ) ^ (24 - v) := by
  obtain ⟨wok, eok⟩ := edges_ok x h hh hx
  have hbot : val (altOf f v).1 = (f : ℚ) * (2 : ℚ) ^ (25 - v) :=
    scale_val_eq (by rw [ofInt_val_exact f (by omega)]) (repVal_dyadic _ _ (by omega) (by omega))
  have htop : val (add (altOf f v).1 (altOf f v).2) = ((f + 1 : Int) : ℚ) * (2 : ℚ) ^ (25 - v) :=
    add_val_eq (by rw [hbot]; simp only [altOf, pow2_val]; push_cast; ring) (repVal_dyadic _ _ (by omega) (by omega))
  have hq : (val (add (altOf f v).1 (altOf f v).2) + val (altOf f v).1) / 2 = ((2 * f + 1 : Int) : ℚ) * (2 : ℚ) ^ (24 - v) := by
    rw [hbot, htop, show (25 : Int) - v = (24 - v) + 1 by ring, zpow_add_one₀ two_ne]; push_cast; ring
  rw [← hq]
  refine centreMid_val x h f v n s (·.alt) _ _ _ (vertices_eq x h f v n s hx) ?_ ?_
    ⟨_, List.mem_cons_self, by rw [newPointLossy_ok wok hn]⟩
    ⟨_, List.mem_cons_of_mem _ (List.mem_cons_of_mem _ (List.mem_cons_of_mem _ (List.mem_cons_of_mem _ List.mem_cons_self))),
      by rw [newPointLossy_ok wok hn]⟩ ?_
  · rw [hbot, htop]; exact mul_le_mul_of_nonneg_right (by push_cast; linarith) (two_zpow_pos _).le
  · simp [newPointLossy_ok wok hn, newPointLossy_ok eok hn, newPointLossy_ok wok hs, newPointLossy_ok eok hs]
  · rw [hq]; exact repVal_dyadic _ _ (by omega) (by omega)

/-- **centre_roundtrip_f**: the vertical index of the centre of cell `f` is `f`, for every vertical index below `2^52` in
magnitude at every zoom pair 0..35, whenever the three latitudes involved (the two row boundaries supplied by the oracle and
their midpoint) are accepted by `SetLat` — otherwise the vertex code leaves the altitude at 0 -/
theorem centre_roundtrip_f (x h f v : Int) (n s tn ts tm : Dy) (hh : 0 ≤ h ∧ h ≤ 35) (hx : 0 ≤ x ∧ x < 2 ^ h.toNat)
    (hv : 0 ≤ v ∧ v ≤ 35) (hf : f.natAbs < 2 ^ 52)
    (hn : setLat n = some tn) (hs : setLat s = some ts) (hm : setLat (centreMid x h f v n s (·.lat)) = some tm) :
    fIndex (centre x h f v n s).alt v = f := by
  have hsc : val (scale (centreMid x h f v n s (·.alt)) (v - 25)) = ((2 * f + 1 : Int) : ℚ) / 2 ^ 1 :=
    scale_val_eq (by
      rw [centreMid_alt x h f v n s tn ts hh hx hv hf hn hs, mul_assoc, ← zpow_add₀ two_ne,
        show (24 - v) + (v - 25) = (-1 : Int) by ring, zpow_neg, zpow_one]; ring)
      (repVal_div_pow _ 1 (by omega) (by omega))
  rw [centre, newPointLossy_ok (centreMid_lon x h f v n s hh hx).2 hm, fIndex, floorInt_div_pow hsc, pow_one]
  omega

-- the hypotheses of `centre_roundtrip_f` are satisfiable (a voxel below ground)
example : (setLat ⟨10, 0⟩).isSome = true ∧ (setLat ⟨5, 0⟩).isSome = true ∧
    (setLat (centreMid 3 2 (-1) 1 ⟨10, 0⟩ ⟨5, 0⟩ (·.lat))).isSome = true ∧
    fIndex (centre 3 2 (-1) 1 ⟨10, 0⟩ ⟨5, 0⟩).alt 1 = -1 ∧ xIndex (centre 3 2 (-1) 1 ⟨10, 0⟩ ⟨5, 0⟩).lon 2 = 3 := by
  decide +kernel

end SpatialId.C02
