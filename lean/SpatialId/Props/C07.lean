/-
C07 — shifting an ID is modular translation on the grid.
Model: SpatialId/Model/Shift.lean (`wrapIdx`, `shiftE`, `shift`), tied to
operated.GetShiftingSpatialID by the `shift`/`shift2` op families.
-/
import SpatialId.Model.Shift
import SpatialId.Lemmas.Core
namespace SpatialId.C07
open SpatialId

/-- the `for s < 0 { s += n }` loop only ever adds multiples of `n`, and with enough fuel ends non-negative -/
theorem wrapLoop_spec (n : Int) (_hn : 0 < n) :
    ∀ (fuel : Nat) (s : Int), (∃ k : Nat, wrapLoop n fuel s = s + k * n) ∧
      (0 ≤ s + fuel * n → 0 ≤ wrapLoop n fuel s) := by
  intro fuel s
  fun_induction wrapLoop n fuel s with
  | case1 s => exact ⟨⟨0, by simp⟩, by simp⟩
  | case2 fuel s hs ih =>
    obtain ⟨⟨k, hk⟩, h2⟩ := ih
    refine ⟨⟨k + 1, ?_⟩, fun h => h2 ?_⟩
    · rw [hk]; push_cast; rw [Int.add_mul]; omega
    · push_cast at h; rw [Int.add_mul] at h; omega
  | case3 fuel s hs => exact ⟨⟨0, by simp⟩, fun _ => by omega⟩

/-- with enough fuel, the loop followed by the truncating remainder (`math.Mod`) is the flooring remainder -/
theorem wrapLoop_tmod (n : Int) (hn : 0 < n) (fuel : Nat) (s : Int) (hf : 0 ≤ s + fuel * n) :
    (wrapLoop n fuel s).tmod n = s % n := by
  obtain ⟨⟨k, hk⟩, hnn⟩ := wrapLoop_spec n hn fuel s
  rw [Int.tmod_eq_emod_of_nonneg (hnn hf), hk, Int.add_mul_emod_self_right]

/-- the wrap step of `GetShiftingSpatialID` (the loop, then `math.Mod`) is reduction modulo `2^h` -/
theorem wrapIdx_eq_emod (h s : Int) (hh : 0 ≤ h) : wrapIdx h s = s % 2 ^ h.toNat := by
  have hn : 0 < pow2 h := pow2_pos h hh
  rw [← pow2_nonneg_eq h hh]
  simp only [wrapIdx, if_pos hn]
  split
  · refine wrapLoop_tmod _ hn _ s ?_
    -- the model's fuel `⌊-s / n⌋ + 2` is enough: `-s < (⌊-s / n⌋ + 1) * n`
    have h1 := Int.lt_ediv_add_one_mul_self (-s) hn
    have h2 := Int.mul_le_mul_of_nonneg_right (show -s / pow2 h + 1 ≤ ((-s / pow2 h + 2).toNat : Int) by omega)
      (Int.le_of_lt hn)
    omega
  · exact (Int.emod_eq_of_lt (by omega) (by omega)).symm

/-- **shift_spec**: same zooms, x and y advanced modulo `2^h`, f advanced without bound. -/
theorem shift_spec (e : Ext) (dx dy dv : Int) (hh : 0 ≤ e.h) :
    shiftE e dx dy dv = ⟨e.h, (e.x + dx) % 2 ^ e.h.toNat, (e.y + dy) % 2 ^ e.h.toNat, e.v, e.f + dv⟩ := by
  simp [shiftE, wrapIdx_eq_emod _ _ hh]

/-- the result is always inside the horizontal index range -/
theorem shift_in_range (e : Ext) (dx dy dv : Int) (hh : 0 ≤ e.h) :
    0 ≤ (shiftE e dx dy dv).x ∧ (shiftE e dx dy dv).x < 2 ^ e.h.toNat ∧
    0 ≤ (shiftE e dx dy dv).y ∧ (shiftE e dx dy dv).y < 2 ^ e.h.toNat := by
  rw [shift_spec e dx dy dv hh]
  have hp := two_pow_pos e.h.toNat
  exact ⟨Int.emod_nonneg _ (Int.ne_of_gt hp), Int.emod_lt_of_pos _ hp,
         Int.emod_nonneg _ (Int.ne_of_gt hp), Int.emod_lt_of_pos _ hp⟩

/-- a zero shift is the identity on IDs whose horizontal indices are in range -/
theorem shift_zero (e : Ext) (hh : 0 ≤ e.h) (hx : 0 ≤ e.x ∧ e.x < 2 ^ e.h.toNat)
    (hy : 0 ≤ e.y ∧ e.y < 2 ^ e.h.toNat) : shiftE e 0 0 0 = e := by
  simp only [shift_spec e 0 0 0 hh, Int.add_zero, Int.emod_eq_of_lt hx.1 hx.2, Int.emod_eq_of_lt hy.1 hy.2]

/-- two shifts compose to the shift by the sum (no validity hypothesis needed beyond `0 ≤ h`) -/
theorem shift_add (e : Ext) (ax ay av bx by' bv : Int) (hh : 0 ≤ e.h) :
    shiftE (shiftE e ax ay av) bx by' bv = shiftE e (ax + bx) (ay + by') (av + bv) := by
  rw [shift_spec (shiftE e ax ay av) bx by' bv hh, shift_spec e ax ay av hh, shift_spec e _ _ _ hh]
  simp only [Int.emod_add_emod, Int.add_assoc]

/-- shifting back by the negated offsets restores a valid ID -/
theorem shift_neg (e : Ext) (dx dy dv : Int) (hh : 0 ≤ e.h) (hx : 0 ≤ e.x ∧ e.x < 2 ^ e.h.toNat)
    (hy : 0 ≤ e.y ∧ e.y < 2 ^ e.h.toNat) :
    shiftE (shiftE e dx dy dv) (-dx) (-dy) (-dv) = e := by
  simp only [shift_add e dx dy dv (-dx) (-dy) (-dv) hh, Int.add_right_neg, shift_zero e hh hx hy]

theorem shift_malformed (id : String) (dx dy dv : Int) (h : parseExt id = none) : shift id dx dy dv = "" := by
  simp [shift, h]

theorem shift_wellformed (id : String) (e : Ext) (dx dy dv : Int) (h : parseExt id = some e) :
    shift id dx dy dv = (shiftE e dx dy dv).id := by
  simp [shift, h]

-- an edge voxel at zoom 5: x = 31 + 1 wraps to 0, y = 0 − 1 to 31
example : shiftE ⟨5, 31, 0, 5, -1⟩ 1 (-1) 3 = ⟨5, 0, 31, 5, 2⟩ := by decide

end SpatialId.C07
