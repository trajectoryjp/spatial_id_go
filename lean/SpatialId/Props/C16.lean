/-
C16 — results depend only on the input set: deterministic, order-blind, no duplicates.
Go's only source of nondeterminism is map iteration order; in the models it only affects the *order* of a
de-duplicated result.  The theorems below state that membership in every set-valued result is a function of the
*set* of inputs (so permuting the input list or repeating entries cannot change it) and that results documented as
de-duplicated have no duplicates; with the correspondence check comparing sorted results, this is "the same set on every
run".  Tied to the implementation by the metamorphic op families det_* (5 repeated calls, 3 shuffled/duplicated variants,
duplicate scan, argument slices compared before/after).
-/
import SpatialId.Props.C04
import SpatialId.Props.C08
import SpatialId.Props.C13
import SpatialId.Model.Util
import SpatialId.Props.C05
namespace SpatialId.C16
open SpatialId

def SameSet {α} (l l' : List α) : Prop := ∀ a, a ∈ l ↔ a ∈ l'

theorem sameSet_of_perm {α} (l l' : List α) (h : l.Perm l') : SameSet l l' := fun _ => h.mem_iff
theorem sameSet_dup {α} (l : List α) (a : α) (h : a ∈ l) : SameSet (a :: l) l := by
  intro b; simp only [List.mem_cons]; constructor
  · rintro (rfl | hb); exact h; exact hb
  · exact Or.inr

theorem change_set (es es' : List Ext) (H V : Int) (h : SameSet es es') : SameSet (changeExtE es H V) (changeExtE es' H V) := by
  intro o
  simp only [mem_changeExtE, h _]
theorem change_nodup (es : List Ext) (H V : Int) : (changeExtE es H V).Nodup := nodup_dedup _

theorem nLayer_set (es es' : List Ext) (H V : Int) (h : SameSet es es') : SameSet (nNE es H V) (nNE es' H V) := by
  intro o
  simp only [C08.nLayer_set, h _]
theorem nLayer_nodup (es : List Ext) (H V : Int) : (nNE es H V).Nodup := nodup_dedup _

theorem filled_set (es es' : List Ext) (H V : Int) (k : Ext) (h : SameSet es es') :
    C04.filled es H V k ↔ C04.filled es' H V k := by
  simp only [C04.filled, regionL, membersOf, List.mem_filter, h _]

theorem merge_set (es es' : List Ext) (H V : Int) (hw : wfL es) (hH : 0 ≤ H) (hV : 0 ≤ V) (h : SameSet es es') :
    SameSet (mergeExtE es H V) (mergeExtE es' H V) := by
  have hw' : wfL es' := fun e he => hw e ((h e).mpr he)
  intro o
  simp only [C04.mem_merge es hw H V hH hV, C04.mem_merge es' hw' H V hH hV, h _, filled_set es es' H V _ h]
theorem merge_nodup (es : List Ext) (H V : Int) : (mergeExtE es H V).Nodup := nodup_dedup _

/-! ### overlap (array forms): when no element is in error the answer is "some pair overlaps" -/
theorem any_set {α} (l l' : List α) (p : α → Bool) (h : SameSet l l') : l.any p = l'.any p := by
  rw [Bool.eq_iff_iff]; simp only [List.any_eq_true, h _]

theorem allExt_set (l l' : List String) (h : SameSet l l') : allExt l = allExt l' := by
  rw [allExt, allExt, Bool.eq_iff_iff]; simp only [List.all_eq_true, h _]

theorem overlapArr_set (as as' bs bs' : List String) (f : String → String → Bool)
    (hA : allExt as = true) (hB : allExt bs = true)
    (hok : ∀ a b, overlapExt a b = .ok (f a b)) (ha : SameSet as as') (hb : SameSet bs bs') :
    overlapExtArr as bs = overlapExtArr as' bs' := by
  rw [C05.arr_eq_any as bs f hA hB (fun a _ b _ => hok a b),
    C05.arr_eq_any as' bs' f (allExt_set as as' ha ▸ hA) (allExt_set bs bs' hb ▸ hB) (fun a _ b _ => hok a b),
    any_set as as' _ ha]
  simp only [any_set bs bs' _ hb]

theorem tiles_set (ts ts' : List Tile) (E O outV : Int) (r r' : List Ext) (h : SameSet ts ts')
    (hr : tilesToExt ts E O outV = .ok r) (hr' : tilesToExt ts' E O outV = .ok r') : SameSet r r' := by
  intro o
  simp only [C13.mem_tilesToExt ts E O outV r hr, C13.mem_tilesToExt ts' E O outV r' hr', h _]
theorem tiles_nodup (ts : List Tile) (E O outV : Int) (r : List Ext) (h : tilesToExt ts E O outV = .ok r) : r.Nodup :=
  C13.tile_nodup ts E O outV r h

theorem unique_set {α} [DecidableEq α] (l l' : List α) (h : SameSet l l') : SameSet (uniqueL l) (uniqueL l') := by
  intro a; simp only [uniqueL, mem_dedup]; exact h a
theorem union_set {α} [DecidableEq α] (l1 l1' l2 l2' : List α) (h1 : SameSet l1 l1') (h2 : SameSet l2 l2') :
    SameSet (unionL l1 l2) (unionL l1' l2') := by
  intro a; simp only [unionL, mem_dedup, List.mem_append, h1 a, h2 a]

/-- the model functions are pure: the same arguments give the same value (no hidden state) — in Lean this is `rfl`;
for the Go code it is what the repeated calls of the det_* families observe -/
theorem deterministic (es : List Ext) (H V : Int) : changeExtE es H V = changeExtE es H V := rfl

example : changeExtE [⟨1, 0, 0, 1, 0⟩, ⟨1, 1, 0, 1, 0⟩] 0 0 = [⟨0, 0, 0, 0, 0⟩] ∧
    changeExtE [⟨1, 1, 0, 1, 0⟩, ⟨1, 0, 0, 1, 0⟩, ⟨1, 1, 0, 1, 0⟩] 0 0 = [⟨0, 0, 0, 0, 0⟩] := by decide

end SpatialId.C16
