/-
C11 (list level) — the cross-group de-duplication of the exported "to quadkey" conversions reports every candidate pair exactly
once, never an empty group; and converting the reported pairs back yields exactly the voxels of the two-step zoom change
(through the quadkey zooms), in particular the original IDs when all zooms coincide.
-/
import SpatialId.Props.C11
import SpatialId.Props.C03
namespace SpatialId.C11
open SpatialId

abbrev Pair := Int × Int

/-- the step of the inner fold of `groupPairs`: `acc.1` is the seen list, `acc.2` the fresh list -/
def innerStep (acc : List Pair × List Pair) (p : Pair) : List Pair × List Pair :=
  if p ∈ acc.1 then acc else (p :: acc.1, acc.2 ++ [p])

/-- invariant of the inner fold started at `(s, [])` -/
def IInv (s : List Pair) (acc : List Pair × List Pair) : Prop := acc.1.Nodup ∧ acc.1 = acc.2.reverse ++ s

theorem innerStep_inv (s : List Pair) (acc : List Pair × List Pair) (p : Pair) (h : IInv s acc) : IInv s (innerStep acc p) := by
  unfold innerStep
  split
  · exact h
  · rename_i hp
    exact ⟨List.nodup_cons.mpr ⟨hp, h.1⟩, by simp [h.2]⟩

theorem mem_innerStep (acc : List Pair × List Pair) (p q : Pair) : q ∈ (innerStep acc p).1 ↔ q ∈ acc.1 ∨ q = p := by
  by_cases h : p ∈ acc.1 <;> simp [innerStep, h, or_comm]
  rintro rfl; exact h

theorem foldl_innerStep (s c : List Pair) : ∀ acc, IInv s acc →
    IInv s (c.foldl innerStep acc) ∧ ∀ q, q ∈ (c.foldl innerStep acc).1 ↔ q ∈ acc.1 ∨ q ∈ c := by
  induction c with
  | nil => intro acc h; exact ⟨h, by simp⟩
  | cons p c ih =>
    intro acc h
    obtain ⟨i1, i2⟩ := ih _ (innerStep_inv s acc p h)
    exact ⟨i1, fun q => by rw [List.foldl_cons, i2, mem_innerStep, List.mem_cons, or_assoc]⟩

/-- the elements of `c` not in `s`, each once, in the order of `c`: what the inner fold of `groupPairs` collects -/
def fresh (s c : List Pair) : List Pair := (c.foldl innerStep (s, [])).2

theorem fresh_spec (s c : List Pair) (hs : s.Nodup) :
    ((fresh s c).reverse ++ s).Nodup ∧ ∀ q, q ∈ (fresh s c).reverse ++ s ↔ q ∈ s ∨ q ∈ c := by
  obtain ⟨⟨i1, i2⟩, i3⟩ := foldl_innerStep s c (s, []) ⟨hs, rfl⟩
  exact i2 ▸ ⟨i1, i3⟩

def outerStep (st : List Pair × List (List Pair)) (c : List Pair) : List Pair × List (List Pair) :=
  if (fresh st.1 c).isEmpty then ((fresh st.1 c).reverse ++ st.1, st.2)
  else ((fresh st.1 c).reverse ++ st.1, st.2 ++ [fresh st.1 c])

theorem groupPairs_eq (cands : List (List Pair)) : groupPairs cands = (cands.foldl outerStep ([], [])).2 := rfl

/-- invariant of the outer fold -/
def GInv (st : List Pair × List (List Pair)) : Prop :=
  st.1.Nodup ∧ st.1.Perm st.2.flatten ∧ ∀ g ∈ st.2, g ≠ []

theorem outerStep_inv (st : List Pair × List (List Pair)) (c : List Pair) (h : GInv st) :
    GInv (outerStep st c) ∧ ∀ q, q ∈ (outerStep st c).1 ↔ q ∈ st.1 ∨ q ∈ c := by
  obtain ⟨f1, f2⟩ := fresh_spec st.1 c h.1
  have hperm : ((fresh st.1 c).reverse ++ st.1).Perm (st.2.flatten ++ fresh st.1 c) :=
    ((List.reverse_perm _).append h.2.1).trans List.perm_append_comm
  unfold outerStep
  split
  · rename_i he
    exact ⟨⟨f1, by simpa [List.isEmpty_iff.mp he] using hperm, h.2.2⟩, f2⟩
  · rename_i he
    refine ⟨⟨f1, by simpa using hperm, ?_⟩, f2⟩
    simp only [List.mem_append, List.mem_singleton]
    rintro g (hg | rfl)
    · exact h.2.2 g hg
    · exact fun hn => he (List.isEmpty_iff.mpr hn)

theorem outer_spec (cs : List (List Pair)) : ∀ st, GInv st →
    GInv (cs.foldl outerStep st) ∧ ∀ q, q ∈ (cs.foldl outerStep st).1 ↔ q ∈ st.1 ∨ ∃ c ∈ cs, q ∈ c := by
  induction cs with
  | nil => intro st h; exact ⟨h, by simp⟩
  | cons c cs ih =>
    intro st h
    obtain ⟨h1, h2⟩ := outerStep_inv st c h
    obtain ⟨j1, j2⟩ := ih _ h1
    exact ⟨j1, fun q => by simp only [List.foldl_cons, j2, h2, List.mem_cons, exists_eq_or_imp, or_assoc]⟩

/-- **no_pair_twice / groups_complete**: the reported groups contain every candidate pair, each exactly once over all groups,
and no group is empty -/
theorem groupPairs_spec (cands : List (List Pair)) :
    (∀ p, p ∈ (groupPairs cands).flatten ↔ ∃ c ∈ cands, p ∈ c) ∧ (groupPairs cands).flatten.Nodup ∧
    ∀ g ∈ groupPairs cands, g ≠ [] := by
  obtain ⟨⟨h1, h2, h3⟩, h4⟩ := outer_spec cands ([], []) ⟨List.nodup_nil, List.Perm.refl _, by simp⟩
  exact ⟨fun p => by rw [groupPairs_eq, ← h2.mem_iff, h4]; simp, h2.nodup_iff.mp h1, h3⟩

/-- the pairs one valid extended ID contributes at quadkey zoom `h`, vertical zoom `v` -/
def cands (h v : Int) (e : Ext) : List Pair := (zoomOne h v e).map fun m => (qkEnc h m.x m.y, m.f)

theorem extToQV_ok (ids : List String) (es : List Ext) (hp : parseAll ids = some es) (hval : ∀ e ∈ es, e.valid) (h v : Int)
    (hq : qkCheckZoom h v = true) : extToQV ids h v = .ok (groupPairs (es.map (cands h v))) := by
  unfold extToQV
  simp only [hq, Bool.not_true, Bool.false_eq_true, if_false]
  rw [mapM_option_factor _ (cands h v) hp ?_]
  intro s _ e he hs
  have hz := (extCheckZoom_iff e.h e.v).mpr (by have := hval e he; unfold Ext.valid at this; omega)
  simp only [hs, hz, Bool.not_true, Bool.false_eq_true, if_false, cands, zoomOne,
    dedup_eq_self_of_nodup (vZoomIdx_nodup _ _ _), List.flatMap_map, List.map_flatMap, List.map_map]
  rfl

/-- `4611686018427388064` (= 4^31 + 160) is the Go literal: `ConvertQuadkeysAndVerticalIDsToExtendedSpatialIDs` rejects a larger
quadkey (transform/convert_quadkey_and_Vertical_id.go) -/
theorem qvToExt_ok (l : List QV) (H V : Int) (he : extCheckZoom H V = true)
    (hl : ∀ q ∈ l, qkCheckZoom q.qz q.vz = true ∧ q.q ≤ 4611686018427388064) :
    qvToExt l H V =
      .ok (dedup (l.flatMap fun q => zoomOne H V ⟨q.qz, (qkDec q.q q.qz).1, (qkDec q.q q.qz).2, q.vz, q.vi⟩)) := by
  unfold qvToExt
  simp only [he, Bool.not_true, Bool.false_eq_true, if_false]
  rw [mapM_option_map (fun q => zoomOne H V ⟨q.qz, (qkDec q.q q.qz).1, (qkDec q.q q.qz).2, q.vz, q.vi⟩) ?_]
  · rfl
  · intro q hq
    have hnot : ¬ q.q > 4611686018427388064 := Int.not_lt.mpr (hl q hq).2
    simp only [(hl q hq).1, hnot, Bool.not_true, Bool.false_eq_true, if_false]
    rfl

theorem zoomOne_range (H V : Int) (e m : Ext) (he : e.valid) (hH : 0 ≤ H) (hV : 0 ≤ V) (hm : m ∈ zoomOne H V e) :
    m.h = H ∧ m.v = V ∧ (0 ≤ m.x ∧ m.x < 2 ^ H.toNat) ∧ (0 ≤ m.y ∧ m.y < 2 ^ H.toNat) := by
  obtain ⟨rfl, rfl, hx, hy, _⟩ := (mem_zoomOne hH hV (C03.wf_of_valid e he) m).mp hm
  unfold Ext.valid at he
  exact ⟨rfl, rfl, axisMeet_range (by omega) hx, axisMeet_range (by omega) hy⟩

/-- **roundtrip_eq_changeZoom**: for valid IDs, converting to (quadkey, vertical index) pairs at zooms `(h, v)` and converting
all reported pairs back at zooms `(h', v')` succeeds and returns exactly the voxels of the two zoom changes
`ids → (h, v) → (h', v')` of C03 -/
theorem roundtrip_eq_changeZoom (ids : List String) (es : List Ext) (hp : parseAll ids = some es)
    (hval : ∀ e ∈ es, e.valid) (h v h' v' : Int) (hq : qkCheckZoom h v = true) (he : extCheckZoom h' v' = true) :
    ∃ gs, extToQV ids h v = .ok gs ∧ ∃ r, qvToExt (gs.flatten.map fun p => ⟨h, p.1, v, p.2⟩) h' v' = .ok r ∧
      ∀ o, o ∈ r ↔ o ∈ changeExtE (changeExtE es h v) h' v' := by
  have hqz := (qkCheckZoom_iff h v).mp hq
  have hvox := fun e hee m => zoomOne_range h v e m (hval e hee) (show 0 ≤ h by omega) (show 0 ≤ v by omega)
  -- the reported pairs are the encodings of the voxels of the first zoom change, and these voxels decode to themselves
  have hmem : ∀ p, p ∈ (groupPairs (es.map (cands h v))).flatten ↔
      ∃ e ∈ es, ∃ m ∈ zoomOne h v e, (qkEnc h m.x m.y, m.f) = p := by
    intro p; simp only [(groupPairs_spec _).1, List.mem_map, cands, exists_exists_and_eq_and]
  have hdec : ∀ e ∈ es, ∀ m ∈ zoomOne h v e,
      (⟨h, (qkDec (qkEnc h m.x m.y) h).1, (qkDec (qkEnc h m.x m.y) h).2, v, m.f⟩ : Ext) = m := by
    intro e hee m hm
    obtain ⟨rfl, rfl, hx, hy⟩ := hvox e hee m hm
    rw [dec_enc _ _ _ hqz.1 hx hy]
  refine ⟨_, extToQV_ok ids es hp hval h v hq, _, qvToExt_ok _ h' v' he ?_, fun o => ?_⟩
  · intro q hq'
    obtain ⟨p, hp', rfl⟩ := List.mem_map.mp hq'
    obtain ⟨e, hee, m, hm, rfl⟩ := (hmem p).mp hp'
    obtain ⟨-, -, hx, hy⟩ := hvox e hee m hm
    have hlt := (enc_lt h m.x m.y hx.1 hy.1).2
    have hpow : (4 : Int) ^ h.toNat ≤ 4 ^ 31 := pow_le_pow_right₀ (by decide) (by omega)
    exact ⟨hq, show qkEnc h m.x m.y ≤ _ by omega⟩
  · simp only [mem_dedup, List.mem_flatMap, List.mem_map, changeExtE, hmem]
    constructor
    · rintro ⟨_, ⟨_, ⟨e, hee, m, hm, rfl⟩, rfl⟩, ho⟩
      rw [hdec e hee m hm] at ho
      exact ⟨m, ⟨e, hee, hm⟩, ho⟩
    · rintro ⟨m, ⟨e, hee, hm⟩, ho⟩
      exact ⟨_, ⟨_, ⟨e, hee, m, hm, rfl⟩, rfl⟩, by rw [hdec e hee m hm]; exact ho⟩

/-- **roundtrip_same_zoom**: with all zooms equal to those of the (valid) IDs the round trip returns exactly the given voxels -/
theorem roundtrip_same_zoom (ids : List String) (es : List Ext) (hp : parseAll ids = some es)
    (hval : ∀ e ∈ es, e.valid) (h v : Int) (hq : qkCheckZoom h v = true) (hsame : ∀ e ∈ es, e.h = h ∧ e.v = v) :
    ∃ gs, extToQV ids h v = .ok gs ∧ ∃ r, qvToExt (gs.flatten.map fun p => ⟨h, p.1, v, p.2⟩) h v = .ok r ∧
      ∀ o, o ∈ r ↔ o ∈ es := by
  have hqz := (qkCheckZoom_iff h v).mp hq
  have he := (extCheckZoom_iff h v).mpr ⟨⟨by omega, by omega⟩, hqz.2⟩
  obtain ⟨gs, h1, r, h2, h3⟩ := roundtrip_eq_changeZoom ids es hp hval h v h v hq he
  refine ⟨gs, h1, r, h2, fun o => ?_⟩
  rw [h3 o, mem_changeExtE_self _ h v (fun e => C03.out_zoom es h v e), mem_changeExtE_self es h v hsame]

end SpatialId.C11
