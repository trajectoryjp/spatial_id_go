/-
C17, the binary-subdivision loop in binary64 against its exact-arithmetic specification.
`C17.calcQ_spec` says what the loop computes over the rationals (the clamped cell index); `calcBitLoop_eq_calcQ` says when the
binary64 loop `calcBitLoop` computes the same: whenever the altitude keeps a margin `ε` from every border the exact loop
compares it with, where `ε` covers the accumulated rounding of the borders — `n` levels, each adding at most
`η = 2^-51·(2B+2) + 2^-1073` for heights bounded by `B`. For the documented ranges (|height| ≤ 2^26 m, 35 levels) that is a
margin of 35·(2^-24 + …) ≈ 2·10^-6 m: the binary64 index can differ from the exact one only for altitudes within two
micrometres of a cell border.
-/
import SpatialId.Props.C17
import SpatialId.Props.C06Mid
namespace SpatialId.C17
open SpatialId F64

/-- the border of one level is the binary64 midpoint of the current interval -/
theorem border_eq_mid (maxH minH : Dy) : add (scale (sub maxH minH) (-1)) minH = C06.midC minH maxH :=
  add_comm' (scale (sub maxH minH) (-1)) minH

/-- the altitude keeps the margin `ε` from every border the EXACT loop compares it with -/
def Clear (alt ε : ℚ) : Nat → ℚ → ℚ → Prop
  | 0, _, _ => True
  | n + 1, hi, lo =>
    let b := (hi - lo) / 2 + lo
    ε < |alt - b| ∧ (if b ≤ alt then Clear alt ε n hi b else Clear alt ε n b lo)

/-- per-level rounding of a border for heights bounded by `B` (and accumulated error at most 1) -/
def eta (B : ℚ) : ℚ := (2 : ℚ) ^ (-51 : Int) * (2 * B + 2) + (2 : ℚ) ^ (-1073 : Int)

theorem eta_pos (B : ℚ) (hB : 0 ≤ B) : 0 < eta B := by
  unfold eta
  positivity

theorem border_close {B δ hi lo : ℚ} (Hf Lf : Dy) (hδ : δ ≤ 1) (hH : |val Hf - hi| ≤ δ) (hL : |val Lf - lo| ≤ δ)
    (bH : |hi| ≤ B) (bL : |lo| ≤ B) :
    |val (C06.midC Lf Hf) - ((hi - lo) / 2 + lo)| ≤ δ + eta B ∧ |(hi - lo) / 2 + lo| ≤ B := by
  have aL : |val Lf| ≤ B + 1 := by linarith [abs_sub_abs_le_abs_sub (val Lf) lo]
  have aH : |val Hf| ≤ B + 1 := by linarith [abs_sub_abs_le_abs_sub (val Hf) hi]
  have hη : |val (C06.midC Lf Hf) - (val Lf + val Hf) / 2| ≤ eta B :=
    (C06.mid_close Lf Hf).trans (add_le_add (mul_le_mul_of_nonneg_left (by linarith) (two_zpow_pos _).le) le_rfl)
  rw [abs_le] at hH hL bH bL hη ⊢
  rw [abs_le]
  exact ⟨⟨by linarith only [hH.1, hL.1, hη.1], by linarith only [hH.2, hL.2, hη.2]⟩,
    by linarith only [bH.1, bL.1], by linarith only [bH.2, bL.2]⟩

theorem le_border_iff {bf alt : Dy} {b ε : ℚ} (h : |val bf - b| ≤ ε) (hc : ε < |val alt - b|) :
    le bf alt = true ↔ b ≤ val alt := by
  rw [le_iff_val]
  rw [abs_le] at h
  rcases lt_abs.mp hc with hc | hc
  · exact ⟨fun _ => by linarith, fun _ => by linarith⟩
  · exact ⟨fun _ => by linarith, fun _ => by linarith⟩

/-- **calcBitLoop_eq_calcQ** — the binary64 loop equals the exact loop under the margin condition -/
theorem calcBitLoop_eq_calcQ (alt : Dy) (B ε : ℚ) (hB : 0 ≤ B) (hε : ε ≤ 1) :
    ∀ (n : Nat) (idx : Int) (Hf Lf : Dy) (hi lo δ : ℚ), 0 ≤ δ →
      |val Hf - hi| ≤ δ → |val Lf - lo| ≤ δ → |hi| ≤ B → |lo| ≤ B → δ + n * eta B ≤ ε →
      Clear (val alt) ε n hi lo →
      calcBitLoop alt n idx Hf Lf = calcQ (val alt) n idx hi lo := by
  intro n
  induction n with
  | zero => intro idx Hf Lf hi lo δ _ _ _ _ _ _ _; rfl
  | succ n ih =>
    intro idx Hf Lf hi lo δ hδ0 hH hL bH bL hbud hclear
    have hη := eta_pos B hB
    -- the next level starts with the error `δ + η`; the budget covers it and the `n` levels after it
    have hbud' : (δ + eta B) + n * eta B ≤ ε := by push_cast at hbud; linarith
    have hδη : δ + eta B ≤ ε := (le_add_of_nonneg_right (by positivity)).trans hbud'
    have hδ : δ ≤ δ + eta B := le_add_of_nonneg_right hη.le
    obtain ⟨hbf, hbB⟩ := border_close Hf Lf (hδ.trans (hδη.trans hε)) hH hL bH bL
    obtain ⟨hmargin, hrest⟩ := hclear
    have hcmp := le_border_iff hbf (hδη.trans_lt hmargin)
    rw [calcBitLoop, calcQ, border_eq_mid]
    by_cases hc : (hi - lo) / 2 + lo ≤ val alt
    · rw [if_pos hc] at hrest ⊢
      rw [if_pos (hcmp.mpr hc)]
      exact ih _ Hf _ hi _ _ (hδ0.trans hδ) (hH.trans hδ) hbf bH hbB hbud' hrest
    · rw [if_neg hc] at hrest ⊢
      rw [if_neg (mt hcmp.mp hc)]
      exact ih _ _ Lf _ lo _ (hδ0.trans hδ) hbf (hL.trans hδ) hbB bL hbud' hrest

/-- **calcBit_float_spec** — `calcBitIndex` in binary64 returns the exact clamped cell index whenever the altitude is clear of
the borders by `zoom · η` -/
theorem calcBit_float_spec (alt maxH minH : Dy) (zoom : Int) (B : ℚ) (hB : 0 ≤ B) (hlt : val minH < val maxH)
    (bH : |val maxH| ≤ B) (bL : |val minH| ≤ B) (hbud : (zoom.toNat : ℚ) * eta B ≤ 1)
    (hclear : Clear (val alt) ((zoom.toNat : ℚ) * eta B) zoom.toNat (val maxH) (val minH)) :
    calcBit alt zoom maxH minH =
      clampFloor ((val alt - val minH) / (val maxH - val minH) * 2 ^ zoom.toNat) zoom.toNat := by
  unfold calcBit
  rw [calcBitLoop_eq_calcQ alt B _ hB hbud zoom.toNat 0 maxH minH (val maxH) (val minH) 0 (le_refl _)
    (by simp) (by simp) bH bL (by simp) hclear, calcQ_spec _ _ _ _ _ hlt]
  simp

end SpatialId.C17
