/-
C06, the bisection step in binary64. `Model/Line.lean` computes the midpoint of a sub-segment per component as
`s + 0.5·(e − s)` (one rounded subtraction, a halving, one rounded addition). `mid_close` bounds its distance from the exact
midpoint `(s+e)/2`: at most 2^-51 of the sum of the two magnitudes (plus a subnormal crumb). Together with `C06.mid_on_segment` (the
exact midpoint of two points of a segment is a point of the segment) this says: every voxel the recursion emits is the voxel
of a point within that distance of the straight segment — the quantitative form of "onto voxels the segment really touches"
for the binary64 recursion, for every pair of end points and every depth.
-/
import SpatialId.Props.C06
import SpatialId.Lemmas.F64Err
namespace SpatialId.C06
open SpatialId F64

def midC (s e : Dy) : Dy := add s (scale (sub e s) (-1))

theorem mid_components (s e : P3) : P3.mid s e = ⟨midC s.x e.x, midC s.y e.y, midC s.z e.z⟩ := rfl

/-- the arithmetic of three chained roundings (pure rational inequality) -/
theorem three_roundings (S E d hv m u c : ℚ) (hu : 0 < u) (hu4 : u ≤ 1 / 4) (hc : 0 < c)
    (h1 : |d - (E - S)| ≤ u * |E - S| + c) (h2 : |hv - d / 2| ≤ u * (|d| / 2) + c) (h3 : |m - (S + hv)| ≤ u * |S + hv| + c) :
    |m - (S + E) / 2| ≤ 4 * u * (|S| + |E|) + 4 * c := by
  have hS := abs_nonneg S; have hE := abs_nonneg E
  have hA := mul_nonneg hu.le (add_nonneg hS hE)
  have b1 : |E - S| ≤ |S| + |E| := by have := abs_sub E S; linarith
  have b2 : |(E - S) / 2| ≤ |S| + |E| := by rw [abs_div, abs_two]; linarith
  have b3 : |(S + E) / 2| ≤ |S| + |E| := by rw [abs_div, abs_two]; have := abs_add_le S E; linarith
  have e1 := round_first hu.le b1 h1
  have h2' : |hv - d / 2| ≤ u * |d / 2| + c := by rwa [abs_div, abs_two]
  have e2 := round_chain hu.le hu4 b2 (approx_half e1) h2'
  have e3 := round_chain (x := S + hv) (X := (S + E) / 2) hu.le hu4 b3
    (by rw [show S + hv - (S + E) / 2 = hv - (E - S) / 2 by ring]; exact e2) h3
  exact units_le hA hc.le (by norm_num) e3

/-- **mid_close** — the binary64 midpoint is within 2^-51·(|s|+|e|) (+ 2^-1073) of the exact midpoint -/
theorem mid_close (s e : Dy) :
    |val (midC s e) - (val s + val e) / 2| ≤ (2 : ℚ) ^ (-51 : Int) * (|val s| + |val e|) + (2 : ℚ) ^ (-1073 : Int) := by
  have hh : |val (scale (sub e s) (-1)) - val (sub e s) / 2| ≤
      (2 : ℚ) ^ (-53 : Int) * (|val (sub e s)| / 2) + (2 : ℚ) ^ (-1075 : Int) := by
    have := scale_err (sub e s) (-1)
    rwa [show (2 : ℚ) ^ (-1 : Int) = 1 / 2 by norm_num, mul_one_div, abs_div, abs_two] at this
  have := three_roundings _ _ _ _ _ _ _ (two_zpow_pos _) (by norm_num) (two_zpow_pos _) (sub_err e s) hh
    (add_err s (scale (sub e s) (-1)))
  rwa [four_crumb, show 4 * (2 : ℚ) ^ (-53 : Int) = (2 : ℚ) ^ (-51 : Int) by norm_num] at this

theorem mid_close3 (s e : P3) :
    |val (P3.mid s e).x - (val s.x + val e.x) / 2| ≤ (2 : ℚ) ^ (-51 : Int) * (|val s.x| + |val e.x|) + (2 : ℚ) ^ (-1073 : Int) ∧
    |val (P3.mid s e).y - (val s.y + val e.y) / 2| ≤ (2 : ℚ) ^ (-51 : Int) * (|val s.y| + |val e.y|) + (2 : ℚ) ^ (-1073 : Int) ∧
    |val (P3.mid s e).z - (val s.z + val e.z) / 2| ≤ (2 : ℚ) ^ (-51 : Int) * (|val s.z| + |val e.z|) + (2 : ℚ) ^ (-1073 : Int) := by
  rw [mid_components]
  exact ⟨mid_close _ _, mid_close _ _, mid_close _ _⟩

end SpatialId.C06
