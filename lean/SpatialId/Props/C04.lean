/-
C04 — merging never changes the covered region, merges all it can, and is idempotent.
Model: SpatialId/Model/Merge.lean, tied to integrate.MergeExtendedSpatialIds / MergeSpatialIds and
ExtendedSpatialID.Higher by the op families mrgExt, mrgSp.  Semantics over ℝ³ (Spec/Region.lean).
-/
import SpatialId.Lemmas.Merge
namespace SpatialId.C04
open SpatialId

/-- a candidate voxel is *filled* when the eligible inputs filed under it cover it completely -/
def filled (es : List Ext) (H V : Int) (k : Ext) : Prop := region k ⊆ regionL (membersOf es H V k)

/-- **mem_merge** — complete characterisation of the result: ineligible inputs verbatim; the candidate voxel of
every filled group; the members of every unfilled group verbatim. -/
theorem mem_merge (es : List Ext) (hw : wfL es) (H V : Int) (hH0 : 0 ≤ H) (hV0 : 0 ≤ V) (o : Ext) :
    o ∈ mergeExtE es H V ↔
      (o ∈ es ∧ ¬ (H ≤ o.h ∧ V ≤ o.v)) ∨
      (∃ e ∈ es, (H ≤ e.h ∧ V ≤ e.v) ∧ o = C05.anc e H V ∧ filled es H V (C05.anc e H V)) ∨
      (o ∈ es ∧ (H ≤ o.h ∧ V ≤ o.v) ∧ ¬ filled es H V (C05.anc o H V)) := by
  -- the group of an eligible input contributes its candidate if it is dense, that is filled, else its members
  have grp := fun e he (hel : H ≤ e.h ∧ V ≤ e.v) =>
    mem_ite_singleton (dense_iff_filled es hw H V hH0 hV0 e he hel.1 hel.2) o (C05.anc e H V) (membersOf es H V (C05.anc e H V))
  simp only [mergeExtE, mem_dedup, List.mem_append, List.mem_filter, List.mem_flatMap, groupsOf, List.mem_map,
    Bool.not_eq_true', ← Bool.not_eq_true, eligible_iff, exists_exists_and_eq_and]
  refine or_congr_right ⟨?_, ?_⟩
  · rintro ⟨e, ⟨he, hel⟩, h⟩
    rw [keyOf_eq_anc hw he hel.1 hel.2] at h
    rcases (grp e he hel).mp h with ⟨rfl, hf⟩ | ⟨hm, hnf⟩
    · exact Or.inl ⟨e, he, hel, rfl, hf⟩
    · obtain ⟨ho, hoel, hk⟩ := (mem_membersOf hw H V _ o).mp hm
      exact Or.inr ⟨ho, hoel, hk ▸ hnf⟩
  · rintro (⟨e, he, hel, rfl, hf⟩ | ⟨ho, hoel, hnf⟩)
    · refine ⟨e, ⟨he, hel⟩, ?_⟩
      rw [keyOf_eq_anc hw he hel.1 hel.2]
      exact (grp e he hel).mpr (Or.inl ⟨rfl, hf⟩)
    · refine ⟨o, ⟨ho, hoel⟩, ?_⟩
      rw [keyOf_eq_anc hw ho hoel.1 hoel.2]
      exact (grp o ho hoel).mpr (Or.inr ⟨(mem_membersOf hw H V _ o).mpr ⟨ho, hoel, rfl⟩, hnf⟩)

/-- **merge_nodup** -/
theorem merge_nodup (es : List Ext) (H V : Int) : (mergeExtE es H V).Nodup := nodup_dedup _

/-- **merge_region**: the result covers exactly the region the input covers -/
theorem merge_region (es : List Ext) (hw : wfL es) (H V : Int) (hH0 : 0 ≤ H) (hV0 : 0 ≤ V) (p : Pt) :
    p ∈ regionL (mergeExtE es H V) ↔ p ∈ regionL es := by
  constructor
  · rintro ⟨o, ho, hp⟩
    rcases (mem_merge es hw H V hH0 hV0 o).mp ho with ⟨h, _⟩ | ⟨e, he, hel, rfl, hf⟩ | ⟨h, _, _⟩
    · exact ⟨o, h, hp⟩
    · obtain ⟨m, hm, hpm⟩ := hf hp
      exact ⟨m, ((mem_membersOf hw H V _ m).mp hm).1, hpm⟩
    · exact ⟨o, h, hp⟩
  · rintro ⟨e, he, hp⟩
    by_cases hel : H ≤ e.h ∧ V ≤ e.v
    · by_cases hf : filled es H V (C05.anc e H V)
      · exact ⟨C05.anc e H V, (mem_merge es hw H V hH0 hV0 _).mpr (Or.inr (Or.inl ⟨e, he, hel, rfl, hf⟩)),
          region_subset_anc hH0 hV0 hel.1 hel.2 hp⟩
      · exact ⟨e, (mem_merge es hw H V hH0 hV0 e).mpr (Or.inr (Or.inr ⟨he, hel, hf⟩)), hp⟩
    · exact ⟨e, (mem_merge es hw H V hH0 hV0 e).mpr (Or.inl ⟨he, hel⟩), hp⟩

/-- **merge_dense**: a target voxel completely filled by eligible inputs appears in the result, and the inputs
it replaces (those filed under it, other than the voxel itself) do not -/
theorem merge_dense (es : List Ext) (hw : wfL es) (H V : Int) (hH0 : 0 ≤ H) (hV0 : 0 ≤ V)
    (e : Ext) (he : e ∈ es) (hel : H ≤ e.h ∧ V ≤ e.v) (hf : filled es H V (C05.anc e H V)) :
    C05.anc e H V ∈ mergeExtE es H V ∧
    ∀ e' ∈ membersOf es H V (C05.anc e H V), e' ≠ C05.anc e H V → e' ∉ mergeExtE es H V := by
  refine ⟨(mem_merge es hw H V hH0 hV0 _).mpr (Or.inr (Or.inl ⟨e, he, hel, rfl, hf⟩)), ?_⟩
  intro e' he' hne hmem
  obtain ⟨_, hel', hk'⟩ := (mem_membersOf hw H V _ e').mp he'
  rcases (mem_merge es hw H V hH0 hV0 e').mp hmem with ⟨_, h⟩ | ⟨e'', _, _, rfl, _⟩ | ⟨_, _, hnf⟩
  · exact h hel'
  · exact hne (by rw [← hk', anc_anc])
  · exact hnf (hk' ▸ hf)

/-- **merge_unchanged**: every other input (coarser than the target in either axis, or part of an incompletely
filled voxel) is returned unchanged -/
theorem merge_unchanged (es : List Ext) (hw : wfL es) (H V : Int) (hH0 : 0 ≤ H) (hV0 : 0 ≤ V)
    (e : Ext) (he : e ∈ es) (h : ¬ (H ≤ e.h ∧ V ≤ e.v) ∨ ¬ filled es H V (C05.anc e H V)) : e ∈ mergeExtE es H V := by
  rw [mem_merge es hw H V hH0 hV0]
  by_cases hel : H ≤ e.h ∧ V ≤ e.v
  · exact Or.inr (Or.inr ⟨he, hel, h.resolve_left (not_not_intro hel)⟩)
  · exact Or.inl ⟨he, hel⟩

theorem merge_wf (es : List Ext) (hw : wfL es) (H V : Int) (hH0 : 0 ≤ H) (hV0 : 0 ≤ V) : wfL (mergeExtE es H V) := by
  intro o ho
  rcases (mem_merge es hw H V hH0 hV0 o).mp ho with ⟨h, _⟩ | ⟨e, he, _, rfl, _⟩ | ⟨h, _, _⟩
  · exact hw o h
  · exact anc_wf (hw e he) hH0 hV0
  · exact hw o h

/-- **merge_idem**: merging the result again changes nothing (as sets; both are duplicate-free) -/
theorem merge_idem (es : List Ext) (hw : wfL es) (H V : Int) (hH0 : 0 ≤ H) (hV0 : 0 ≤ V) (o : Ext) :
    o ∈ mergeExtE (mergeExtE es H V) H V ↔ o ∈ mergeExtE es H V := by
  let R := mergeExtE es H V
  have hwR : wfL R := merge_wf es hw H V hH0 hV0
  have mR := mem_merge R hwR H V hH0 hV0
  have mE := mem_merge es hw H V hH0 hV0
  -- a candidate of the first pass, sitting in R, is filled in the second pass (by itself)
  have selfFilled : ∀ e, C05.anc e H V ∈ R → filled R H V (C05.anc e H V) := fun e hk p hp =>
    ⟨_, (mem_membersOf hwR H V _ _).mpr ⟨hk, ⟨Int.le_refl _, Int.le_refl _⟩, anc_anc e H V⟩, hp⟩
  -- an unfilled group keeps exactly its members, so it stays unfilled
  have unfilledStays : ∀ e, ¬ filled es H V (C05.anc e H V) → ¬ filled R H V (C05.anc e H V) := by
    intro e hnf hfR
    refine hnf fun p hp => ?_
    obtain ⟨m, hm, hpm⟩ := hfR hp
    obtain ⟨hmR, hmel, hmk⟩ := (mem_membersOf hwR H V _ m).mp hm
    rcases (mE m).mp hmR with ⟨_, h⟩ | ⟨e'', _, _, rfl, hf''⟩ | ⟨hmes, _, _⟩
    · exact absurd hmel h
    · rw [anc_anc] at hmk; exact absurd (hmk ▸ hf'') hnf
    · exact ⟨m, (mem_membersOf hw H V _ m).mpr ⟨hmes, hmel, hmk⟩, hpm⟩
  constructor
  · intro ho
    rcases (mR o).mp ho with ⟨h, _⟩ | ⟨e, heR, hel, rfl, hfR⟩ | ⟨h, _, _⟩
    · exact h
    · rcases (mE e).mp heR with ⟨_, h⟩ | ⟨e'', _, _, rfl, _⟩ | ⟨_, _, hnf⟩
      · exact absurd hel h
      · rw [anc_anc]; exact heR
      · exact absurd hfR (unfilledStays e hnf)
    · exact h
  · intro ho
    rw [mR]
    rcases (mE o).mp ho with ⟨_, h⟩ | ⟨e, he, hel, rfl, hf⟩ | ⟨hoes, hel, hnf⟩
    · exact Or.inl ⟨ho, h⟩
    · exact Or.inr (Or.inl ⟨_, ho, ⟨Int.le_refl _, Int.le_refl _⟩, (anc_anc e H V).symm,
        (anc_anc e H V).symm ▸ selfFilled e ho⟩)
    · exact Or.inr (Or.inr ⟨ho, hel, unfilledStays o hnf⟩)

/-! ### string level -/

theorem mergeExt_zoom_err (ids : List String) (H V : Int) (h : ¬ (0 ≤ H ∧ H ≤ 35 ∧ 0 ≤ V ∧ V ≤ 35)) :
    mergeExt ids H V = .err := by
  simp [mergeExt, mt (checkZoom2_iff H V).mp h]

theorem mergeExt_malformed_err (ids : List String) (H V : Int) (h : parseAll ids = none) : mergeExt ids H V = .err := by
  unfold mergeExt; split
  · rfl
  · simp [h]

theorem mergeExt_no_panic (ids : List String) (H V : Int) : mergeExt ids H V ≠ .panic := by
  unfold mergeExt; split
  · simp
  · split <;> simp

-- D2 (fixed, `Higher` floors): the pair straddling ground level is not merged; a complete sibling pair is
example : mergeExtE [⟨5, 1, 1, 5, -1⟩, ⟨5, 1, 1, 5, 0⟩] 5 4 = [⟨5, 1, 1, 5, -1⟩, ⟨5, 1, 1, 5, 0⟩] := by decide
example : mergeExtE [⟨5, 1, 1, 5, -2⟩, ⟨5, 1, 1, 5, -1⟩] 5 4 = [⟨5, 1, 1, 4, -1⟩] := by decide

end SpatialId.C04
