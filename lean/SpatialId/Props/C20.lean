/-
C20 — the exported helper algebra obeys its mathematical laws (set helpers, Max/Min, arithmetic shift,
Combinations; the vector/matrix/quaternion part is in Props/C20Vec.lean).
Model: SpatialId/Model/Util.lean and `arithShift` (Basic.lean), tied to common/util.go by the op families
sets, ashift, combLattice.
-/
import SpatialId.Lemmas.F64Val
import SpatialId.Lemmas.Comb
namespace SpatialId.C20
open SpatialId

variable {α : Type} [DecidableEq α]

theorem union_mem (l1 l2 : List α) (a : α) : a ∈ unionL l1 l2 ↔ a ∈ l1 ∨ a ∈ l2 := by
  simp [unionL, mem_dedup]
theorem union_nodup (l1 l2 : List α) : (unionL l1 l2).Nodup := nodup_dedup _
theorem inter_mem (l1 l2 : List α) (a : α) : a ∈ intersectL l1 l2 ↔ a ∈ l1 ∧ a ∈ l2 := by
  simp [intersectL, and_comm]
theorem diff_mem (l1 l2 : List α) (a : α) : a ∈ differenceL l1 l2 ↔ a ∈ l1 ∧ a ∉ l2 := by
  simp [differenceL]
theorem unique_mem (l : List α) (a : α) : a ∈ uniqueL l ↔ a ∈ l := mem_dedup l a
theorem unique_nodup (l : List α) : (uniqueL l).Nodup := nodup_dedup _
theorem include_iff (l : List α) (t : α) : includeL l t = true ↔ t ∈ l := by simp [includeL]
/-- Intersect and Difference keep the order of the slice they filter -/
theorem inter_sublist (l1 l2 : List α) : (intersectL l1 l2).Sublist l2 := List.filter_sublist
theorem diff_sublist (l1 l2 : List α) : (differenceL l1 l2).Sublist l1 := List.filter_sublist

/-- **max_spec**: an element of the slice bounding all others; the empty slice is rejected -/
theorem max_spec (l : List Int) (m : Int) (h : maxL l = some m) : m ∈ l ∧ ∀ x ∈ l, x ≤ m := by
  cases l with
  | nil => simp [maxL] at h
  | cons a l =>
    obtain ⟨h1, _, h3⟩ := foldl_select (· ≤ ·) id (fun m x : Int => m < x) Int.le_refl Int.le_trans
      (fun _ _ => Int.le_of_lt) (fun _ _ => Int.not_lt.mp) (a :: l) a
    simp only [id_eq, show _ = m from Option.some.inj h] at h1 h3
    exact ⟨h1.elim (· ▸ List.mem_cons_self) (fun ⟨x, hx, e⟩ => e ▸ hx), h3⟩
theorem max_empty_err : maxL [] = none := rfl
theorem max_nonempty (a : Int) (l : List Int) : (maxL (a :: l)).isSome := by simp [maxL]

theorem min_spec (l : List Int) (m : Int) (h : minL l = some m) : m ∈ l ∧ ∀ x ∈ l, m ≤ x := by
  cases l with
  | nil => simp [minL] at h
  | cons a l =>
    obtain ⟨h1, _, h3⟩ := foldl_select (· ≥ ·) id (fun m x : Int => m > x) Int.le_refl (fun h h' => Int.le_trans h' h)
      (fun _ _ => Int.le_of_lt) (fun _ _ => Int.not_lt.mp) (a :: l) a
    simp only [id_eq, show _ = m from Option.some.inj h] at h1 h3
    exact ⟨h1.elim (· ▸ List.mem_cons_self) (fun ⟨x, hx, e⟩ => e ▸ hx), h3⟩
theorem min_empty_err : minL [] = none := rfl

/-! ### the signed arithmetic shift is ⌊index · 2^shift⌋ for either sign of index and shift -/
theorem shift_eq_floor (i s : Int) : arithShift i s = ⌊(i : ℚ) * (2 : ℚ) ^ s⌋ :=
  (F64.arithShift_eq_floorInt i s).trans (F64.floorInt_mk ℚ i s)

omit [DecidableEq α] in
/-- the members of the specification `chooseK k l` are exactly the `k`-element sublists of `l`: this theorem and
`chooseK_complete` -/
theorem chooseK_sublist (k : Nat) (l s : List α) (h : s ∈ chooseK k l) : s.Sublist l ∧ s.length = k := by
  fun_induction chooseK k l generalizing s with
  | case1 => simp at h; subst h; simp
  | case2 => simp at h
  | case3 k a l ih1 ih2 =>
    simp only [List.mem_append, List.mem_map] at h
    rcases h with ⟨t, ht, rfl⟩ | h
    · obtain ⟨h1, h2⟩ := ih1 t ht
      exact ⟨h1.cons_cons a, by simp [h2]⟩
    · obtain ⟨h1, h2⟩ := ih2 s h
      exact ⟨h1.cons a, h2⟩

omit [DecidableEq α] in
theorem chooseK_complete (k : Nat) (l s : List α) (h : s.Sublist l) (hk : s.length = k) : s ∈ chooseK k l := by
  induction h generalizing k with
  | slnil => subst hk; simp [chooseK]
  | cons a _ ih =>
    cases k with
    | zero => rw [List.length_eq_zero_iff] at hk; subst hk; simp [chooseK]
    | succ k => simp only [chooseK, List.mem_append]; right; exact ih (k + 1) hk
  | cons_cons a _ ih =>
    cases k with
    | zero => simp at hk
    | succ k =>
      simp only [chooseK, List.mem_append, List.mem_map]
      left; exact ⟨_, ih k (by simpa using hk), rfl⟩

/-- **comb_spec (finite table 0 ≤ k ≤ n ≤ 12, the property's quantifier)**: the enumerator visits exactly the
`k`-sublists of `0..n-1`, each once, in lexicographic order — `combinations_eq_chooseK`, which holds for all
`k ≤ n`, with fuel for the at most `2 ^ 12` sublists -/
theorem comb_table : ∀ n ∈ List.range 13, ∀ k ∈ List.range (n + 1),
    combinations (n : Int) (k : Int) 5000 = chooseK k ((List.range n).map fun (i : Nat) => (i : Int)) := by
  intro n hn k hk
  rw [List.mem_range] at hn hk
  refine combinations_eq_chooseK n k 5000 (by omega) ?_
  calc _ ≤ 2 ^ n := by simpa using chooseK_length_le k ((List.range n).map fun (i : Nat) => (i : Int))
    _ ≤ 2 ^ 12 := Nat.pow_le_pow_right (by decide) (by omega)
    _ ≤ 5000 := by decide

end SpatialId.C20
