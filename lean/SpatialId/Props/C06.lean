/-
C06 — a line is voxelised without gaps, onto voxels the segment really touches.
Model: SpatialId/Model/Line.lean (`P3.mid`, `belowThr`, `middle`, `lineExt`) over binary64, with the voxel function `vox`
a parameter (x, f computed, row index from the oracle table); tied to shape.GetExtendedSpatialIdsOnLine /
GetSpatialIdsOnLine / middleSpatialIds by the op family line (exact set comparison), and checked on the implementation's
own output by an independent checker (end voxels, duplicates, 26-connected chain, every voxel touched by the segment).
-/
import Mathlib.Tactic.Ring
import Mathlib.Tactic.Linarith
import SpatialId.Model.Line
import SpatialId.Props.C08
namespace SpatialId.C06
open SpatialId F64 C08

/-! ### connectivity -/

/-- `b` can be reached from `a` by steps between touching voxels that stay inside `S` -/
inductive Conn (S : List Ext) : Ext → Ext → Prop
  | refl (a : Ext) : Conn S a a
  | step {a b c : Ext} : Conn S a b → touch b c → c ∈ S → Conn S a c

theorem Conn.mono {S T : List Ext} (h : ∀ x ∈ S, x ∈ T) {a b : Ext} (c : Conn S a b) : Conn T a b := by
  induction c with
  | refl => exact Conn.refl _
  | step _ t m ih => exact Conn.step ih t (h _ m)

theorem Conn.trans {S : List Ext} {a b c : Ext} (h1 : Conn S a b) (h2 : Conn S b c) : Conn S a c := by
  induction h2 with
  | refl => exact h1
  | step _ t m ih => exact Conn.step ih t m

theorem stencil6_sub_26 : ∀ d ∈ stencil6, d ∈ stencil26 := by decide

theorem adj_of_mem_n6 {a m : Ext} (h : m ∈ n6E a ++ [a]) : adj a m := by
  rw [List.mem_append, List.mem_singleton] at h
  rcases h with h | h
  · rw [n6_eq, List.mem_map] at h
    obtain ⟨d, hd, rfl⟩ := h
    exact Or.inr ⟨d, stencil6_sub_26 d hd, rfl⟩
  · exact Or.inl h

/-- the chain of `middle_connected`, inside any list `S` that holds the emitted voxels and the end voxel -/
theorem middle_chain (vox : P3 → Ext) (thr : P3 → P3 → Bool) {S : List Ext} (fuel : Nat) (s e : P3) :
    ∀ l, middle vox thr fuel s e = some l → thrTight vox thr fuel s e = true → vox e ∈ S → l ⊆ S →
      Conn S (vox s) (vox e) := by
  -- the branches of `middle`: 1 no fuel; 2 threshold stop; 3 the mid voxel is next to both end voxels; 4 next to the start
  -- voxel only (recursion on the second half); 5 next to the end voxel only (first half); 6 both halves; 7 a half ran dry
  fun_induction middle vox thr fuel s e with
  | case1 | case7 => intro l h; cases h
  | case2 fuel s e m vm c0 =>
    rintro _ ⟨⟩ ht he hl
    rw [thrTight, if_pos c0, Bool.and_eq_true, decide_eq_true_eq, decide_eq_true_eq] at ht
    exact ((Conn.refl _).step ht.1 (hl (.head _))).step ht.2 he
  | case3 fuel s e m vm c0 ns ne c1 =>
    rintro _ ⟨⟩ - he hl
    exact ((Conn.refl _).step (.inl (adj_of_mem_n6 c1.1)) (hl (.head _))).step (.inr (adj_of_mem_n6 c1.2)) he
  | case4 fuel s e m vm c0 ns ne c1 c2 ih =>
    intro l h ht he hl
    obtain ⟨l', hm, rfl⟩ := Option.map_eq_some_iff.mp h
    rw [thrTight, if_neg c0, if_neg c1, if_pos c2] at ht
    obtain ⟨hv, hl⟩ := List.cons_subset.mp hl
    exact ((Conn.refl _).step (.inl (adj_of_mem_n6 c2)) hv).trans (ih l' hm ht he hl)
  | case5 fuel s e m vm c0 ns ne c1 c2 c3 ih =>
    intro l h ht he hl
    obtain ⟨l', hm, rfl⟩ := Option.map_eq_some_iff.mp h
    rw [thrTight, if_neg c0, if_neg c1, if_neg c2, if_pos c3] at ht
    obtain ⟨hv, hl⟩ := List.cons_subset.mp hl
    exact (ih l' hm ht hv hl).step (.inr (adj_of_mem_n6 c3)) he
  | case6 fuel s e m vm c0 ns ne c1 c2 c3 a b hb ha ih1 ih2 =>
    rintro _ ⟨⟩ ht he hl
    rw [thrTight, if_neg c0, if_neg c1, if_neg c2, if_neg c3, Bool.and_eq_true] at ht
    obtain ⟨hv, hl⟩ := List.cons_subset.mp hl
    obtain ⟨hl₁, hl₂⟩ := List.append_subset.mp hl
    exact (ih1 a ha ht.1 hv hl₁).trans (ih2 b hb ht.2 he hl₂)

/-- **connected** (recursion): the voxels emitted for a sub-segment, together with its two end voxels, contain a chain
of touching voxels from the start voxel to the end voxel -/
theorem middle_connected (vox : P3 → Ext) (thr : P3 → P3 → Bool) :
    ∀ (fuel : Nat) (s e : P3) (l : List Ext), middle vox thr fuel s e = some l → thrTight vox thr fuel s e = true →
      Conn (vox s :: vox e :: l) (vox s) (vox e) :=
  fun fuel s e l h ht => middle_chain vox thr fuel s e l h ht (.tail _ (.head _)) fun _ hx => .tail _ (.tail _ hx)

/-! ### the exported function -/

theorem lineExt_ok {tbl : RowTable} {s e : GeoPt} {h v : Int} {fuel : Nat} {l : List Ext}
    (hl : lineExt tbl s e h v fuel = .ok l) :
    voxStored tbl h v s = voxStored tbl h v e ∧ l = [voxStored tbl h v s] ∨
    voxStored tbl h v s ≠ voxStored tbl h v e ∧ ∃ l', middle (voxP3 tbl h v)
      (belowThr (if h ≥ 31 then hiLonMinima else lonMinima) (if h ≥ 31 then hiLatMinima else latMinima)
        (if v ≥ 34 then hiAltMinima else altMinima)) fuel ⟨s.lon, s.lat, s.alt⟩ ⟨e.lon, e.lat, e.alt⟩ = some l' ∧
      l = dedup ([voxStored tbl h v s, voxStored tbl h v e] ++ l') := by
  unfold lineExt at hl
  by_cases hz : (!(checkZoom h && checkZoom v)) = true
  · rw [if_pos hz] at hl; cases hl
  rw [if_neg hz] at hl
  dsimp only at hl
  by_cases heq : voxStored tbl h v s = voxStored tbl h v e
  · rw [if_pos heq] at hl; cases hl; exact .inl ⟨heq, rfl⟩
  rw [if_neg heq] at hl
  split at hl
  · cases hl
  · next l' hm => cases hl; exact .inr ⟨heq, l', hm, rfl⟩

/-- **ends_included**, **nodup**, **single_voxel** for `GetExtendedSpatialIdsOnLine`: whenever the call succeeds the result
is duplicate-free, contains the voxels of both end points, and is that single ID when both end points lie in one voxel -/
theorem line_spec (tbl : RowTable) (s e : GeoPt) (h v : Int) (fuel : Nat) (l : List Ext)
    (hl : lineExt tbl s e h v fuel = .ok l) :
    l.Nodup ∧ voxStored tbl h v s ∈ l ∧ voxStored tbl h v e ∈ l ∧
    (voxStored tbl h v s = voxStored tbl h v e → l = [voxStored tbl h v s]) := by
  rcases lineExt_ok hl with ⟨heq, rfl⟩ | ⟨hne, l', -, rfl⟩
  · simp [heq]
  · exact ⟨nodup_dedup _, (mem_dedup _ _).mpr (by simp), (mem_dedup _ _).mpr (by simp), fun h => absurd h hne⟩

/-- **connected** for `GetExtendedSpatialIdsOnLine`: provided the end voxels of the recursion are those of the stored end
points and the threshold stops are tight, the result contains a chain of touching voxels from the start voxel to the end voxel -/
theorem line_connected (tbl : RowTable) (s e : GeoPt) (h v : Int) (fuel : Nat) (l : List Ext)
    (hl : lineExt tbl s e h v fuel = .ok l)
    (hs : voxP3 tbl h v ⟨s.lon, s.lat, s.alt⟩ = voxStored tbl h v s)
    (he : voxP3 tbl h v ⟨e.lon, e.lat, e.alt⟩ = voxStored tbl h v e)
    (ht : thrTight (voxP3 tbl h v)
      (belowThr (if h ≥ 31 then hiLonMinima else lonMinima) (if h ≥ 31 then hiLatMinima else latMinima)
        (if v ≥ 34 then hiAltMinima else altMinima)) fuel ⟨s.lon, s.lat, s.alt⟩ ⟨e.lon, e.lat, e.alt⟩ = true) :
    Conn l (voxStored tbl h v s) (voxStored tbl h v e) := by
  rcases lineExt_ok hl with ⟨heq, rfl⟩ | ⟨-, l', hm, rfl⟩
  · rw [heq]; exact Conn.refl _
  · have c := middle_connected _ _ fuel _ _ l' hm ht
    rw [hs, he] at c
    exact c.mono fun x hx => (mem_dedup _ _).mpr hx

theorem line_errors (tbl : RowTable) (s e : GeoPt) (h v : Int) (fuel : Nat) (hz : ¬ (0 ≤ h ∧ h ≤ 35 ∧ 0 ≤ v ∧ v ≤ 35)) :
    lineExt tbl s e h v fuel = .err := by
  simp [lineExt, mt (checkZoom2_iff h v).mp hz]

/-! ### every emitted voxel is the voxel of a point of the segment (exact arithmetic) -/

/-- points obtained from the two end points by repeated halving — what the recursion evaluates `vox` at -/
inductive Dyadic (s e : P3) : P3 → Prop
  | start : Dyadic s e s
  | stop : Dyadic s e e
  | mid {a b : P3} : Dyadic s e a → Dyadic s e b → Dyadic s e (P3.mid a b)

/-- **mid_on_segment (model)**: every voxel handed to `operate` is the voxel of a dyadic point of the segment -/
theorem middle_dyadic (vox : P3 → Ext) (thr : P3 → P3 → Bool) (s0 e0 : P3) :
    ∀ (fuel : Nat) (s e : P3) (l : List Ext), Dyadic s0 e0 s → Dyadic s0 e0 e → middle vox thr fuel s e = some l →
      ∀ o ∈ l, ∃ p, Dyadic s0 e0 p ∧ o = vox p := by
  intro fuel s e
  -- in every branch the list is the mid voxel followed by what the recursive calls emit
  fun_induction middle vox thr fuel s e with
  | case1 | case7 => intro l _ _ h; cases h
  | case2 fuel s e m vm | case3 fuel s e m vm =>
    rintro _ ds de ⟨⟩
    exact List.forall_mem_singleton.mpr ⟨m, .mid ds de, rfl⟩
  | case4 fuel s e m vm c0 ns ne c1 c2 ih =>
    intro l ds de h
    obtain ⟨l', hm, rfl⟩ := Option.map_eq_some_iff.mp h
    exact List.forall_mem_cons.mpr ⟨⟨m, .mid ds de, rfl⟩, ih l' (.mid ds de) de hm⟩
  | case5 fuel s e m vm c0 ns ne c1 c2 c3 ih =>
    intro l ds de h
    obtain ⟨l', hm, rfl⟩ := Option.map_eq_some_iff.mp h
    exact List.forall_mem_cons.mpr ⟨⟨m, .mid ds de, rfl⟩, ih l' ds (.mid ds de) hm⟩
  | case6 fuel s e m vm c0 ns ne c1 c2 c3 a b hb ha ih1 ih2 =>
    rintro _ ds de ⟨⟩
    exact List.forall_mem_cons.mpr ⟨⟨m, .mid ds de, rfl⟩,
      List.forall_mem_append.mpr ⟨ih1 a ds (.mid ds de) ha, ih2 b (.mid ds de) de hb⟩⟩

/-- in exact arithmetic the midpoint of two points of a segment is a point of the segment -/
theorem mid_on_segment (s e ta tb : ℚ) (ha : 0 ≤ ta ∧ ta ≤ 1) (hb : 0 ≤ tb ∧ tb ≤ 1) :
    let a := s + ta * (e - s)
    let b := s + tb * (e - s)
    a + (b - a) / 2 = s + ((ta + tb) / 2) * (e - s) ∧ 0 ≤ (ta + tb) / 2 ∧ (ta + tb) / 2 ≤ 1 := by
  refine ⟨by ring, by linarith [ha.1, hb.1], by linarith [ha.2, hb.2]⟩

end SpatialId.C06
