/-
C04, last clause: "the rule is the same above and below ground level".
Formal content: merging commutes with the reflection of the vertical axis `f ↦ −1−f` (the map that sends the layer
just above ground, f = 0, to the layer just below, f = −1, at every zoom):

    o ∈ merge (es.map refl) H V  ↔  refl o ∈ merge es H V

for every well-formed list and every target.  (D2, fixed: a truncating division in `Higher` breaks exactly this symmetry;
`Higher` floors, in the model as in the implementation.)
-/
import SpatialId.Props.C04
namespace SpatialId.C04
open SpatialId

def refl (e : Ext) : Ext := ⟨e.h, e.x, e.y, e.v, -1 - e.f⟩

@[simp] theorem refl_refl (e : Ext) : refl (refl e) = e := by
  cases e; simp only [refl, Ext.mk.injEq, true_and]; omega

theorem refl_eq_iff (a b : Ext) : refl a = b ↔ a = refl b :=
  ⟨fun h => by rw [← h, refl_refl], fun h => by rw [h, refl_refl]⟩

theorem mem_map_refl (es : List Ext) (o : Ext) : o ∈ es.map refl ↔ refl o ∈ es := by
  simp only [List.mem_map, refl_eq_iff, exists_eq_right]

/-- floor division commutes with the reflection -/
theorem ediv_refl (f n : Int) (hn : 0 < n) : (-1 - f) / n = -1 - f / n := neg_one_sub_ediv f n hn

theorem axisMeet_refl (z Z : ℕ) (i j : ℤ) : axisMeet z Z (-1 - i) (-1 - j) ↔ axisMeet z Z i j := by
  unfold axisMeet
  split <;> rw [ediv_refl _ _ (two_pow_pos _)] <;> omega

theorem meets_refl (e o : Ext) : meets (refl e) (refl o) ↔ meets e o := by
  unfold meets refl
  simp only [axisMeet_refl]

theorem anc_refl (e : Ext) (H V : Int) : C05.anc (refl e) H V = refl (C05.anc e H V) := by
  unfold C05.anc refl
  simp only [Ext.mk.injEq, true_and]
  exact ediv_refl _ _ (two_pow_pos _)

theorem wfL_refl (es : List Ext) (hw : wfL es) : wfL (es.map refl) :=
  fun e he => hw (refl e) ((mem_map_refl es e).mp he)

theorem mem_membersOf_refl (es : List Ext) (hw : wfL es) (H V : Int) (k e : Ext) :
    e ∈ membersOf (es.map refl) H V (refl k) ↔ refl e ∈ membersOf es H V k := by
  rw [mem_membersOf (wfL_refl es hw), mem_membersOf hw, mem_map_refl, anc_refl, ← refl_eq_iff]
  exact Iff.rfl

theorem filled_refl (es : List Ext) (hw : wfL es) (H V : Int) (k : Ext) (hk : 0 ≤ k.h ∧ 0 ≤ k.v) :
    filled (es.map refl) H V (refl k) ↔ filled es H V k := by
  unfold filled
  -- a zoom pair finer than everything: the list maxima and the candidate's zooms
  let mH := max (maxZoomH es) k.h
  let mV := max (maxZoomV es) k.v
  have bL : ∀ e ∈ membersOf es H V k, 0 ≤ e.h ∧ 0 ≤ e.v ∧ e.h ≤ mH ∧ e.v ≤ mV := by
    intro e he
    obtain ⟨hes, _, _⟩ := (mem_membersOf hw H V k e).mp he
    exact ⟨(hw e hes).1, (hw e hes).2.1, le_max_of_le_left ((maxZoomH_ge es).2 e hes),
      le_max_of_le_left ((maxZoomV_ge es).2 e hes)⟩
  have bk : 0 ≤ k.h ∧ 0 ≤ k.v ∧ k.h ≤ mH ∧ k.v ≤ mV := ⟨hk.1, hk.2, le_max_right _ _, le_max_right _ _⟩
  rw [subset_iff_units (refl k) _ mH mV bk (fun e he => bL (refl e) ((mem_membersOf_refl es hw H V k e).mp he)),
    subset_iff_units k _ mH mV bk bL]
  -- the unit voxels, and the members meeting them, are mirror images of each other
  constructor <;> intro h u r1 r2 hm
  · obtain ⟨e, he, hme⟩ := h (refl u) r1 r2 ((meets_refl k u).mpr hm)
    exact ⟨refl e, (mem_membersOf_refl es hw H V k e).mp he, (meets_refl (refl e) u).mp (by rwa [refl_refl])⟩
  · obtain ⟨e, he, hme⟩ := h (refl u) r1 r2 (by rwa [← meets_refl, refl_refl])
    exact ⟨refl e, (mem_membersOf_refl es hw H V k (refl e)).mpr (by rwa [refl_refl]),
      (meets_refl (refl e) u).mp (by rwa [refl_refl])⟩

/-- **merge_reflect** — the merge rule is the same above and below ground level -/
theorem merge_reflect (es : List Ext) (hw : wfL es) (H V : Int) (hH0 : 0 ≤ H) (hV0 : 0 ≤ V) (o : Ext) :
    o ∈ mergeExtE (es.map refl) H V ↔ refl o ∈ mergeExtE es H V := by
  -- one direction, for every list; the other is the same statement about the mirrored list
  have half : ∀ (es : List Ext), wfL es → ∀ o, o ∈ mergeExtE (es.map refl) H V → refl o ∈ mergeExtE es H V := by
    intro es hw o
    have fr : ∀ e : Ext, filled (es.map refl) H V (C05.anc e H V) ↔ filled es H V (C05.anc (refl e) H V) := fun e => by
      have := filled_refl es hw H V (C05.anc (refl e) H V) ⟨hH0, hV0⟩
      rwa [← anc_refl, refl_refl] at this
    rw [mem_merge _ (wfL_refl es hw) H V hH0 hV0, mem_merge es hw H V hH0 hV0]
    rintro (⟨ho, hne⟩ | ⟨e, he, hel, rfl, hf⟩ | ⟨ho, hoel, hnf⟩)
    · exact Or.inl ⟨(mem_map_refl es o).mp ho, hne⟩
    · exact Or.inr (Or.inl ⟨refl e, (mem_map_refl es e).mp he, hel, (anc_refl e H V).symm, (fr e).mp hf⟩)
    · exact Or.inr (Or.inr ⟨(mem_map_refl es o).mp ho, hoel, mt (fr o).mpr hnf⟩)
  refine ⟨half es hw o, fun h => ?_⟩
  have := half (es.map refl) (wfL_refl es hw) (refl o)
  rw [List.map_map, show refl ∘ refl = id from funext refl_refl, List.map_id, refl_refl] at this
  exact this h

-- the pair straddling ground level (the D2 witness) and its mirror image behave alike: neither is merged at (5,4), since the
-- two voxels lie in different zoom-4 layers
example : mergeExtE [⟨5,1,1,5,-1⟩, ⟨5,1,1,5,0⟩] 5 4 = [⟨5,1,1,5,-1⟩, ⟨5,1,1,5,0⟩] := by decide +kernel
example : mergeExtE ([⟨5,1,1,5,-1⟩, ⟨5,1,1,5,0⟩].map refl) 5 4 = [⟨5,1,1,5,0⟩, ⟨5,1,1,5,-1⟩] := by decide +kernel
example : mergeExtE [⟨5,1,1,5,-2⟩, ⟨5,1,1,5,-1⟩] 5 4 = [⟨5,1,1,4,-1⟩] := by decide +kernel
example : mergeExtE ([⟨5,1,1,5,-2⟩, ⟨5,1,1,5,-1⟩].map refl) 5 4 = [⟨5,1,1,4,0⟩] := by decide +kernel

end SpatialId.C04
