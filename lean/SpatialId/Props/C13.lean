/-
C13 — 3D tile keys convert to IDs that cover the tile and keep its footprint.
Model: `tileToExt`, `tilesToExt`, `tilesToSp`, `newTile` in SpatialId/Model/AltKey.lean, tied to
transform.ConvertTileXYZsToExtendedSpatialIDs / ConvertTileXYZsToSpatialIDs and object.NewTileXYZ by the op family tiles.
-/
import SpatialId.Props.C12
import SpatialId.Props.C10
namespace SpatialId.C13
open SpatialId Alt

theorem tileToExt_eq_some (E O outV : Int) (t : Tile) (l : List Ext) :
    tileToExt E O outV t = some l ↔ extCheckZoom t.h outV = true ∧ ∃ a b, k2z t.z t.v outV E O = .ok (a, b) ∧
      l = (irange a b).map fun z => ⟨t.h, t.x, t.y, outV, z⟩ := by
  unfold tileToExt
  cases extCheckZoom t.h outV
  · simp
  · rcases k2z t.z t.v outV E O with ⟨a, b⟩ | _ | _ <;> simp [eq_comm]

theorem tileToExt_none_iff (E O outV : Int) (t : Tile) :
    tileToExt E O outV t = none ↔ extCheckZoom t.h outV = false ∨ ∀ a b, k2z t.z t.v outV E O ≠ .ok (a, b) := by
  unfold tileToExt
  cases extCheckZoom t.h outV
  · simp
  · rcases k2z t.z t.v outV E O with ⟨a, b⟩ | _ | _ <;> simp

theorem mem_tileToExt {E O outV : Int} {t : Tile} {l : List Ext} (h : tileToExt E O outV t = some l) (o : Ext) :
    o ∈ l ↔ ∃ a b, k2z t.z t.v outV E O = .ok (a, b) ∧ a ≤ o.f ∧ o.f ≤ b ∧
      o.h = t.h ∧ o.x = t.x ∧ o.y = t.y ∧ o.v = outV := by
  obtain ⟨_, a, b, hk, rfl⟩ := (tileToExt_eq_some E O outV t l).mp h
  obtain ⟨oh, ox, oy, ov, g⟩ := o
  simp only [List.mem_map, mem_irange]
  constructor
  · rintro ⟨z, hz, ho⟩; cases ho; exact ⟨a, b, hk, hz.1, hz.2, rfl, rfl, rfl, rfl⟩
  · rintro ⟨a', b', hk', h1, h2, rfl, rfl, rfl, rfl⟩
    cases hk.symm.trans hk'
    exact ⟨g, ⟨h1, h2⟩, rfl⟩

theorem tilesToExt_ok {ts : List Tile} {E O outV : Int} {r : List Ext} (h : tilesToExt ts E O outV = .ok r) :
    ∃ ls, ts.mapM (tileToExt E O outV) = some ls ∧ r = dedup ls.flatten := by
  unfold tilesToExt at h
  split at h
  · cases h
  · cases h; exact ⟨_, ‹_›, rfl⟩

/-- **tile_indices / tile_footprint / tile_vzoom**: a voxel is in the result iff it is some tile's footprint
(hZoom, x, y unchanged) at the requested vertical zoom with a vertical index in that tile's covering range -/
theorem mem_tilesToExt (ts : List Tile) (E O outV : Int) (r : List Ext) (h : tilesToExt ts E O outV = .ok r) (o : Ext) :
    o ∈ r ↔ ∃ t ∈ ts, ∃ a b, k2z t.z t.v outV E O = .ok (a, b) ∧ a ≤ o.f ∧ o.f ≤ b ∧
      o.h = t.h ∧ o.x = t.x ∧ o.y = t.y ∧ o.v = outV := by
  obtain ⟨ls, hm, rfl⟩ := tilesToExt_ok h
  rw [mem_dedup, List.mem_flatten]
  constructor
  · rintro ⟨l, hl, ho⟩
    obtain ⟨t, ht, hg⟩ := (mapM_option_mem hm).2 l hl
    exact ⟨t, ht, (mem_tileToExt hg o).mp ho⟩
  · rintro ⟨t, ht, ho⟩
    obtain ⟨l, hl, hg⟩ := (mapM_option_mem hm).1 t ht
    exact ⟨l, hl, (mem_tileToExt hg o).mpr ho⟩

/-- **tile_nodup**: duplicates across tiles are removed -/
theorem tile_nodup (ts : List Tile) (E O outV : Int) (r : List Ext) (h : tilesToExt ts E O outV = .ok r) : r.Nodup := by
  obtain ⟨ls, _, rfl⟩ := tilesToExt_ok h
  exact nodup_dedup _

/-- **tile_all_or_nothing**: any tile whose zoom or range is in error fails the whole call (no partial result) -/
theorem tile_all_or_nothing (ts : List Tile) (E O outV : Int) (t : Tile) (ht : t ∈ ts)
    (hbad : tileToExt E O outV t = none) : tilesToExt ts E O outV = .err := by
  unfold tilesToExt
  rw [mapM_option_none ht hbad]

theorem tiles_no_panic (ts : List Tile) (E O outV : Int) : tilesToExt ts E O outV ≠ .panic := by
  unfold tilesToExt; split <;> simp

/-- **tile_covers**: the union of the results contains the tile's altitude interval — every vertical cell of the
output zoom that meets the tile's key cell is present over the tile's footprint -/
theorem tile_covers (ts : List Tile) (E O outV : Int) (r : List Ext) (h : tilesToExt ts E O outV = .ok r)
    (hE : C12.zr E) (hV : C12.zr outV) (t : Tile) (ht : t ∈ ts) (htv : C12.zr t.v)
    (g : Int) (hg : inter (fCell g outV) (keyCell t.z t.v E O)) : (⟨t.h, t.x, t.y, outV, g⟩ : Ext) ∈ r := by
  -- the tile itself converted (otherwise the whole call would have failed)
  obtain ⟨ls, hm, _⟩ := tilesToExt_ok h
  obtain ⟨l, _, hl⟩ := (mapM_option_mem hm).1 t ht
  obtain ⟨_, a, b, hk, _⟩ := (tileToExt_eq_some E O outV t l).mp hl
  have hin := C12.k2z_contains t.z t.v outV E O a b htv hV hE hk g hg
  exact (mem_tilesToExt ts E O outV r h _).mpr ⟨t, ht, a, b, hk, hin.1, hin.2, rfl, rfl, rfl, rfl⟩

/-- **tileSp_eq_expand**: the spatial-ID variant is precisely the C10 expansion of the extended result -/
theorem tileSp_eq_expand (ts : List Tile) (E O outV : Int) :
    tilesToSp ts E O outV = (tilesToExt ts E O outV).map fun l => l.flatMap expandExt := rfl

/-- … hence the same region at a single zoom -/
theorem tileSp_region (ts : List Tile) (E O outV : Int) (r : List Ext) (_h : tilesToExt ts E O outV = .ok r)
    (hw : ∀ o ∈ r, C03.wf o) (p : Pt) : p ∈ regionL (r.flatMap expandExt) ↔ p ∈ regionL r := by
  constructor
  · rintro ⟨s, hs, hp⟩
    obtain ⟨o, ho, hso⟩ := List.mem_flatMap.mp hs
    exact ⟨o, ho, (C10.expand_region o (hw o ho) p).mp ⟨s, hso, hp⟩⟩
  · rintro ⟨o, ho, hp⟩
    obtain ⟨s, hs, hps⟩ := (C10.expand_region o (hw o ho) p).mpr hp
    exact ⟨s, List.mem_flatMap.mpr ⟨o, ho, hs⟩, hps⟩

/-- `NewTileXYZ` (D8 fixed) accepts exactly zooms 0..35 -/
theorem newTile_domain (h x y v z : Int) :
    (newTile h x y v z).isSome ↔ (0 ≤ h ∧ h ≤ 35) ∧ (0 ≤ v ∧ v ≤ 35) := by
  simp [newTile, apply_ite Option.isSome]

example : tilesToExt [⟨20, 5, 6, 25, 2 ^ 24 + 3⟩] 25 (2 ^ 24) 26 = .ok [⟨20, 5, 6, 26, 6⟩, ⟨20, 5, 6, 26, 7⟩] := by decide

end SpatialId.C13
