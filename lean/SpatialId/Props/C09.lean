/-
C09 — point lookup, zoom change, merge and overlap agree with each other.
Corollaries of C01 (binary64 point model), C03 (zoom change), C04 (merge) and C05 (overlap); tied to the implementation
by the composite op families nest (point at coarse zoom vs zoom-out of the point's fine ID), zio, mrgkids, ovkids, evaluated
on the real code, and by the families of C03/C04/C05.
-/
import SpatialId.Props.C01
import SpatialId.Props.C04
import SpatialId.Props.C05
namespace SpatialId.C09
open SpatialId F64

/-- **pt_nested_f**: the vertical index at a coarser zoom is the floor zoom-out of the index at any finer zoom -/
theorem pt_nested_f (alt : Dy) (vc : Int) (d : Nat) (hr : Rep alt) (hu : -1074 ≤ alt.e + vc - 25) :
    fIndex alt vc = fIndex alt (vc + d) / 2 ^ d := by
  rw [C01.f_exact alt vc hr hu, C01.f_exact alt (vc + d) hr (by omega)]
  exact floorInt_coarser _ _ _ d (by omega)

/-- … and that is exactly what `VerticalZoom` returns for it -/
theorem pt_nested_f_zoom (alt : Dy) (vc : Int) (d : Nat) (hr : Rep alt) (hu : -1074 ≤ alt.e + vc - 25) :
    vZoomIdx (vc + d) (fIndex alt (vc + d)) vc = [fIndex alt vc] := by
  rw [vZoomIdx_out _ _ _ (by omega), add_sub_cancel_left, Int.toNat_natCast, pt_nested_f alt vc d hr hu]

/-- **pt_nested_y**: the same for the row index, for every oracle value `u` -/
theorem pt_nested_y (u : Dy) (hc : Int) (d : Nat) (hr : Rep u) (hh : 0 ≤ hc) (hu : -1074 ≤ u.e + hc - 1) :
    yIndex u hc = yIndex u (hc + d) / 2 ^ d := by
  rw [C01.y_formula u hc hr hh hu, C01.y_formula u (hc + d) hr (by omega) (by omega)]
  exact floorInt_coarser _ _ _ d (by omega)

theorem clamp_ediv (i N D : Int) (hD : 0 < D) :
    (if i ≥ N * D then N * D - 1 else i) / D = if i / D ≥ N then N - 1 else i / D := by
  have hq : N ≤ i / D ↔ N * D ≤ i := Int.le_ediv_iff_mul_le hD
  by_cases c : i ≥ N * D
  · rw [if_pos c, if_pos (hq.mpr c), mul_sub_one_ediv _ _ hD]
  · rw [if_neg c, if_neg (mt hq.mp c)]

/-- **pt_nested_x**: the column index (clamp included) at a coarser zoom is the floor zoom-out of the index at any finer
zoom; `hr`, `hu` are about the binary64 quotient `(lon+180)/360`, which does not depend on the zoom -/
theorem pt_nested_x (lon : Dy) (hc : Int) (d : Nat) (hh : 0 ≤ hc)
    (hr : Rep (div (add (if F64.eq lon c180 then neg lon else lon) c180) c360))
    (hu : -1074 ≤ (div (add (if F64.eq lon c180 then neg lon else lon) c180) c360).e + hc) :
    xIndex lon hc = xIndex lon (hc + d) / 2 ^ d := by
  unfold xIndex
  simp only []
  generalize (div (add (if F64.eq lon c180 = true then neg lon else lon) c180) c360) = t at hr hu ⊢
  rw [floorInt_scale t hc hr hu, floorInt_scale t (hc + d) hr (by omega),
    floorInt_coarser t.m (t.e + hc) (t.e + (hc + d)) d (by omega),
    two_pow_split (hc + d).toNat hc.toNat d (by omega)]
  exact (clamp_ediv _ _ _ (two_pow_pos d)).symm

theorem desc_spec (s m : Ext) (hw : C03.wf s) (H V : Int) (hH : s.h ≤ H) (hV : s.v ≤ V) (hm : m ∈ zoomOne H V s) :
    (s.h ≤ m.h ∧ s.v ≤ m.v) ∧ C03.wf m ∧ C05.anc m s.h s.v = s := by
  obtain ⟨rfl, rfl, hmm⟩ := (mem_zoomOne_in hH hV hw m).mp hm
  have ha := (meets_iff_anc s m hw.1 hw.2.1 hH hV).mp hmm
  have hwa : C03.wf (C05.anc m s.h s.v) := ha.symm ▸ hw
  exact ⟨⟨hH, hV⟩, ⟨Int.le_trans hw.1 hH, Int.le_trans hw.2.1 hV, (Int.ediv_nonneg_iff_of_pos (two_pow_pos _)).mp hwa.2.2.1,
    (Int.ediv_nonneg_iff_of_pos (two_pow_pos _)).mp hwa.2.2.2⟩, ha⟩

/-- **zoomIn_out_id**: zooming an ID in and then back out to its own zooms returns exactly that ID -/
theorem zoomIn_out_id (s : Ext) (hw : C03.wf s) (H V : Int) (hH : s.h ≤ H) (hV : s.v ≤ V) (o : Ext) :
    o ∈ changeExtE (changeExtE [s] H V) s.h s.v ↔ o = s := by
  -- every descendant zooms out to `s` alone, and there is a descendant
  have back : ∀ m ∈ zoomOne H V s, zoomOne s.h s.v m = [s] := fun m hm => by
    obtain ⟨el, wm, ha⟩ := desc_spec s m hw H V hH hV hm
    rw [zoomOne_out m s.h s.v el.1 el.2 wm.2.2.1 wm.2.2.2, ha]
  obtain ⟨m, hm⟩ := List.exists_mem_of_ne_nil _ (zoomOne_ne_nil H V s)
  rw [mem_changeExtE, changeExtE_single]
  exact ⟨fun ⟨m, hm, ho⟩ => by simpa [back m hm] using ho, fun ho => ⟨m, hm, by simpa [back m hm] using ho⟩⟩

/-- **merge_children**: merging the complete set of descendants of an ID at its own zooms returns exactly that ID -/
theorem merge_children (s : Ext) (hw : C03.wf s) (H V : Int) (hH : s.h ≤ H) (hV : s.v ≤ V) (o : Ext) :
    o ∈ mergeExtE (zoomOne H V s) s.h s.v ↔ o = s := by
  have hd := fun m hm => desc_spec s m hw H V hH hV hm
  have hwl : wfL (zoomOne H V s) := fun m hm => (hd m hm).2.1
  have hel := fun m hm => (hd m hm).1
  -- the target voxel is filled by its descendants
  have hfilled : C04.filled (zoomOne H V s) s.h s.v s := fun p hp =>
    let ⟨m, hm, hpm⟩ := C03.zoomIn_cover H V s hw hH hV p hp
    ⟨m, (mem_membersOf hwl _ _ _ m).mpr ⟨hm, hel m hm, (hd m hm).2.2⟩, hpm⟩
  obtain ⟨m, hm⟩ := List.exists_mem_of_ne_nil _ (zoomOne_ne_nil H V s)
  rw [C04.mem_merge _ hwl s.h s.v hw.1 hw.2.1]
  constructor
  · rintro (⟨hm, hne⟩ | ⟨m, hm, _, ho, _⟩ | ⟨hm, _, hnf⟩)
    · exact absurd (hel o hm) hne
    · exact ho.trans (hd m hm).2.2
    · exact absurd (by rw [(hd o hm).2.2]; exact hfilled) hnf
  · rintro rfl
    exact Or.inr (Or.inl ⟨m, hm, hel m hm, (hd m hm).2.2.symm, (hd m hm).2.2.symm ▸ hfilled⟩)

/-- **pt_voxels_overlap**: two voxels that are nested axis by axis (as a point's voxels at two zoom pairs are, by the
three nesting theorems) are reported as overlapping -/
theorem nested_overlap (a b : Ext) (wa : C03.wf a) (wb : C03.wf b) (hh : a.h ≤ b.h) (hv : a.v ≤ b.v)
    (hx : b.x / 2 ^ (b.h - a.h).toNat = a.x) (hy : b.y / 2 ^ (b.h - a.h).toNat = a.y)
    (hf : b.f / 2 ^ (b.v - a.v).toNat = a.f) : overlapE a b = .ok true := by
  have : meets a b := ⟨(axisMeet_toNat_le wa.1 hh _ _).mpr hx, (axisMeet_toNat_le wa.1 hh _ _).mpr hy,
    (axisMeet_toNat_le wa.2.1 hv _ _).mpr hf⟩
  simp [C05.overlapE_iff_meets a b wa wb, this]

-- the column and row of the library's test point (shape/point_test.go) at zooms (25,25), changed to (20,18)
example : changeExtE [⟨25, 29803148, 13212522, 25, 3⟩] 20 18 = [⟨20, 931348, 412891, 18, 0⟩] := by decide +kernel

end SpatialId.C09
