/-
C03 — changing zoom yields exactly the voxels that refine or contain the input.
Model: SpatialId/Model/Zoom.lean, tied to integrate.{ChangeExtendedSpatialIdsZoom, ChangeSpatialIdsZoom,
HorizontalZoom, HorizontalZoomMinMax, VerticalZoom} by the op families chgExt, chgSp, axis, axisLattice.
Semantics: SpatialId/Spec/Region.lean (voxels as subsets of ℝ³).
-/
import SpatialId.Lemmas.Zoom
namespace SpatialId.C03
open SpatialId

theorem wf_of_valid (e : Ext) (h : e.valid) : wf e := by
  unfold Ext.valid at h; unfold wf; omega

/-- the horizontal and the vertical axis are treated independently -/
theorem axes_independent (H V : Int) (e o : Ext) :
    o ∈ zoomOne H V e ↔ o.h = H ∧ o.v = V ∧ (o.x, o.y) ∈ hZoomIdx e.h e.x e.y H ∧ o.f ∈ vZoomIdx e.v e.f V :=
  mem_zoomOne_idx H V e o

theorem out_zoom (es : List Ext) (H V : Int) (o : Ext) (h : o ∈ changeExtE es H V) : o.h = H ∧ o.v = V := by
  obtain ⟨e, _, ho⟩ := (mem_changeExtE es H V o).mp h
  exact ⟨((mem_zoomOne_idx H V e o).mp ho).1, ((mem_zoomOne_idx H V e o).mp ho).2.1⟩

theorem out_nodup (es : List Ext) (H V : Int) : (changeExtE es H V).Nodup := nodup_dedup _

/-- **change_exact**: the result is exactly the set of target-zoom voxels that intersect the inputs. -/
theorem change_exact (es : List Ext) (H V : Int) (hH : 0 ≤ H) (hV : 0 ≤ V) (hes : ∀ e ∈ es, wf e) (o : Ext) :
    o ∈ changeExtE es H V ↔ o.h = H ∧ o.v = V ∧ (region o ∩ regionL es).Nonempty := by
  rw [mem_changeExtE]
  constructor
  · rintro ⟨e, he, ho⟩
    obtain ⟨h1, h2, hm⟩ := (mem_zoomOne hH hV (hes e he) o).mp ho
    obtain ⟨p, hp1, hp2⟩ := (meets_iff e o).mpr hm
    exact ⟨h1, h2, p, hp2, e, he, hp1⟩
  · rintro ⟨h1, h2, p, hp, e, he, hpe⟩
    exact ⟨e, he, (mem_zoomOne hH hV (hes e he) o).mpr ⟨h1, h2, (meets_iff e o).mp ⟨p, hpe, hp⟩⟩⟩

/-- raising the zoom: every produced voxel lies inside the input … -/
theorem zoomIn_subset (H V : Int) (e o : Ext) (he : wf e) (hH : e.h ≤ H) (hV : e.v ≤ V) (ho : o ∈ zoomOne H V e) :
    region o ⊆ region e := by
  obtain ⟨rfl, rfl, hm⟩ := (mem_zoomOne_in hH hV he o).mp ho
  exact region_subset_of_le hH hV hm

/-- … and together they cover it: the union of the descendants is the input -/
theorem zoomIn_cover (H V : Int) (e : Ext) (he : wf e) (hH : e.h ≤ H) (hV : e.v ≤ V) (p : Pt) (hp : p ∈ region e) :
    ∃ o ∈ zoomOne H V e, p ∈ region o :=
  ⟨voxelAt H V p, (mem_zoomOne_in hH hV he _).mpr ⟨rfl, rfl, meets_voxelAt H V hp⟩, mem_voxelAt H V p⟩

/-- distinct voxels of one zoom pair never share a point (so the descendants partition the input) -/
theorem same_zoom_disjoint (o o' : Ext) (hh : o.h = o'.h) (hv : o.v = o'.v) (hne : o ≠ o') :
    region o ∩ region o' = ∅ := by
  apply Set.eq_empty_of_forall_notMem
  rintro p ⟨⟨a1, a2, a3⟩, ⟨b1, b2, b3⟩⟩
  apply hne
  rw [hh] at a1 a2; rw [hv] at a3
  cases o; cases o'
  simp only [Ext.mk.injEq] at *
  exact ⟨hh, a1.symm.trans b1, a2.symm.trans b2, hv, a3.symm.trans b3⟩

theorem length_flatMap_const {α β} (l : List α) (f : α → List β) (c : Nat) (h : ∀ a ∈ l, (f a).length = c) :
    (l.flatMap f).length = l.length * c := SpatialId.length_flatMap_const l f c h

theorem irange_self (i : Int) : irange i i = [i] := SpatialId.irange_self i

/-- raising the zooms by `dh`, `dv` produces `4^dh · 2^dv` voxels per input -/
theorem zoomIn_count (e : Ext) (dh dv : Nat) :
    (zoomOne (e.h + dh) (e.v + dv) e).length = 4 ^ dh * 2 ^ dv := length_zoomOne_in e dh dv

/-- lowering the zooms returns the single ancestor, and it contains the input -/
theorem zoomOut_ancestor (H V : Int) (e : Ext) (he : wf e) (hH0 : 0 ≤ H) (hV0 : 0 ≤ V) (hH : H ≤ e.h) (hV : V ≤ e.v) :
    ∃ a, zoomOne H V e = [a] ∧ a.h = H ∧ a.v = V ∧ region e ⊆ region a := by
  refine ⟨_, zoomOne_out e H V hH hV he.2.2.1 he.2.2.2, rfl, rfl, region_subset_anc hH0 hV0 hH hV⟩

/-- floor semantics below ground: the ancestor of `f = -1` is `-1` at every coarser zoom -/
theorem neg_floor (z z' : Int) (_h0 : 0 ≤ z') (h : z' ≤ z) : vZoomIdx z (-1) z' = [-1] := by
  rw [vZoomIdx_out _ _ _ h, Int.neg_one_ediv, Int.sign_eq_one_of_pos (two_pow_pos _)]

/-! string level: the error behaviour of `ChangeExtendedSpatialIdsZoom` -/

theorem changeExt_zoom_err (ids : List String) (H V : Int) (h : ¬ (0 ≤ H ∧ H ≤ 35 ∧ 0 ≤ V ∧ V ≤ 35)) :
    changeExt ids H V = .err := by
  simp [changeExt, mt (checkZoom2_iff H V).mp h]

theorem changeExt_malformed_err (ids : List String) (H V : Int) (h : parseAll ids = none) :
    changeExt ids H V = .err := by
  unfold changeExt
  split
  · rfl
  · simp [h]

theorem changeExt_ok (ids : List String) (es : List Ext) (H V : Int) (hz : 0 ≤ H ∧ H ≤ 35 ∧ 0 ≤ V ∧ V ≤ 35)
    (h : parseAll ids = some es) : changeExt ids H V = .ok ((changeExtE es H V).map Ext.id) := by
  simp [changeExt, (checkZoom2_iff H V).mpr hz, h]

theorem changeExt_no_panic (ids : List String) (H V : Int) : changeExt ids H V ≠ .panic := by
  unfold changeExt
  split
  · simp
  · split <;> simp

-- the first is the input of D1 (fixed): truncating division gives `4/0/0/4/0`
example : zoomOne 4 4 ⟨5, 1, 1, 5, -1⟩ = [⟨4, 0, 0, 4, -1⟩] := by decide
example : (zoomOne 6 6 ⟨5, 1, 1, 5, -1⟩).length = 8 := by decide
example : wf ⟨5, 1, 1, 5, -1⟩ := by unfold wf; decide

end SpatialId.C03
