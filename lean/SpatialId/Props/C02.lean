/-
C02 — an ID is mapped back to the geometry of its voxel, and the grid tiles space.
Model: `altOf`, `westLon`, `eastLon`, `vertices`, `centre`, `pointOnExt`, `pointOnSp` in SpatialId/Model/Point.lean
(software binary64), tied bit-for-bit to shape.GetPointOnExtendedSpatialId / GetPointOnSpatialId by the op family geom;
the centre round trip is evaluated on the implementation by the op family ctrrt.  Row latitudes are oracle values.
-/
import SpatialId.Props.C01
namespace SpatialId.C02
open SpatialId F64

theorem ofInt_of_fits (i : Int) (h : i.natAbs < 2 ^ 53) : ofInt i = ⟨i, 0⟩ := by
  by_cases h0 : i = 0
  · subst h0; rfl
  · exact rnd_of_lt i 0 h0 h (by omega)

/-- **alt_edges_exact**: the bottom altitude of `f ≠ 0` at zoom `v` is exactly `f·2^(25-v)` metres (no rounding),
the resolution exactly `2^(25-v)` (for `f = 0` the bottom is the literal 0: `alt_zero`) -/
theorem alt_edges_exact (f v : Int) (hf : f.natAbs < 2 ^ 53) (hv : 0 ≤ v ∧ v ≤ 35) (h0 : f ≠ 0) :
    altOf f v = (⟨f, 25 - v⟩, ⟨1, 25 - v⟩) := by
  unfold altOf scale F64.pow2
  rw [ofInt_of_fits f hf]
  simp only [Int.zero_add]
  rw [rnd_of_lt f _ h0 hf (by omega)]

theorem alt_zero (v : Int) : altOf 0 v = (⟨0, 0⟩, ⟨1, 25 - v⟩) := by
  simp [altOf, ofInt, scale, rnd_zero, F64.pow2]

/-- **shared_face_alt**: the top of voxel `f` is *identical* to the bottom of voxel `f+1` (the same rounding of the
same exact value), so vertically adjacent voxels report the same altitude for their shared face -/
theorem shared_face_alt (f v : Int) (hf : f.natAbs < 2 ^ 52) (hv : 0 ≤ v ∧ v ≤ 35) (h0 : f ≠ 0) :
    add (altOf f v).1 (altOf f v).2 = (altOf (f + 1) v).1 := by
  rw [alt_edges_exact f v (by omega) hv h0]
  simp only []
  rw [add_same_exp]
  by_cases h1 : f + 1 = 0
  · rw [h1, alt_zero, rnd_zero]
  · rw [alt_edges_exact (f + 1) v (by omega) hv h1]
    exact rnd_of_lt _ _ h1 (by omega) (by omega)

/-- the remaining case `f = 0` (whose bottom is the literal 0): equal as binary64 values at every zoom -/
theorem shared_face_alt_zero : ∀ v ∈ List.range 36,
    F64.eq (add (altOf 0 (v : Int)).1 (altOf 0 (v : Int)).2) (altOf 1 (v : Int)).1 = true := by
  intro v hv
  have hv : (v : Int) ≤ 35 := by have := List.mem_range.mp hv; omega
  rw [alt_zero, alt_edges_exact 1 v (by decide) ⟨by omega, hv⟩ (by decide), eq_iff_val]
  exact add_val_eq (by simp [val]) (repVal_dyadic 1 (25 - v) (by decide) (by omega))

/-- **shared_face_lon**: the east edge of column `x` is *identical* to the west edge of column `x+1` -/
theorem shared_face_lon (x h : Int) (hx : 0 ≤ x ∧ x < 2 ^ 52) : eastLon x h = westLon (x + 1) h := by
  rw [eastLon, westLon, ofInt_of_fits x (by omega), add_same_exp]
  rfl

/-- **lon_edges_exact**: the west edge of column `x` (0 < x ≤ 2^h, h ≤ 35) is exactly `360·x/2^h − 180` degrees: every
intermediate value is representable, so no rounding occurs -/
theorem lon_edges_exact (x h : Int) (hh : 0 ≤ h ∧ h ≤ 35) (hx : 0 < x ∧ x ≤ 2 ^ h.toNat) (hne : 360 * x ≠ 180 * 2 ^ h.toNat) :
    westLon x h = ⟨360 * x - 180 * 2 ^ h.toNat, -h⟩ := by
  have hp : (2 : Int) ^ h.toNat ≤ 2 ^ 35 := two_pow_le_of_le (by omega)
  have hm : mul ⟨x, 0⟩ c360 = ⟨x * 360, 0⟩ := rnd_of_lt (x * 360) (0 + 0) (by omega) (by omega) (by omega)
  have hs : scale ⟨x * 360, 0⟩ (-h) = ⟨x * 360, 0 + -h⟩ := rnd_of_lt (x * 360) (0 + -h) (by omega) (by omega) (by omega)
  have ha : sub ⟨x * 360, -h⟩ c180 = rnd (x * 360 + -180 * 2 ^ (0 - -h).toNat) (-h) := add_of_le (x * 360) (-180) (-h) 0 (by omega)
  rw [westLon, ofInt_of_fits x (by omega), hm, hs, Int.zero_add, ha, show (0 - -h).toNat = h.toNat by omega,
    show x * 360 + -180 * 2 ^ h.toNat = 360 * x - 180 * 2 ^ h.toNat by omega]
  exact rnd_of_lt _ _ (by omega) (by omega) (by omega)

/-- the eight vertices for a row oracle `rowLat : row boundary ↦ latitude` -/
def verticesO (rowLat : Int → Dy) (x y h f v : Int) : List GeoPt :=
  vertices x h f v (rowLat (clampRow y h)) (rowLat (clampRow y h + 1))

/-- **corner_order**: NW, NE, SE, SW at the bottom altitude, then the same four at the top altitude -/
theorem corner_order (x h f v : Int) (n s : Dy) :
    vertices x h f v n s =
      let w := westLon (wrapLon x h) h
      let e := eastLon (wrapLon x h) h
      let b := (altOf f v).1
      let t := add (altOf f v).1 (altOf f v).2
      [newPointLossy w n b, newPointLossy e n b, newPointLossy e s b, newPointLossy w s b,
       newPointLossy w n t, newPointLossy e n t, newPointLossy e s t, newPointLossy w s t] := by
  simp [vertices]

/-- **shared_face_lat**: the south latitude of row `y` and the north latitude of row `y+1` are the same stored value,
whatever the oracle is: both evaluate it at the boundary `y+1` and apply the same truncation -/
theorem shared_face_lat (rowLat : Int → Dy) (x y h f v : Int) (hy : 0 ≤ y ∧ y + 1 ≤ 2 ^ h.toNat - 1) :
    ((verticesO rowLat x y h f v).getD 3 default).lat = ((verticesO rowLat x (y + 1) h f v).getD 0 default).lat := by
  have c1 : clampRow y h = y := by unfold clampRow; simp only []; split <;> [omega; (split <;> omega)]
  have c2 : clampRow (y + 1) h = y + 1 := by unfold clampRow; simp only []; split <;> [omega; (split <;> omega)]
  simp only [verticesO, vertices, c1, c2, List.getD_cons_succ, List.getD_cons_zero]

/-- **tiling**: every point of space lies in exactly one voxel of each (hZoom, vZoom) -/
theorem tiling (h v : ℕ) (p : Pt) : ∃! o : Ext, o.h = h ∧ o.v = v ∧ p ∈ region o := by
  obtain ⟨hin, huniq⟩ := C01.names_containing_voxel p h v
  refine ⟨_, ⟨rfl, rfl, hin⟩, ?_⟩
  rintro o ⟨h1, h2, h3⟩
  exact huniq o h1 h2 h3

theorem pointOn_malformed (id : String) (opt : Int) (n s : Dy) (h : parseExt id = none) : pointOnExt id opt n s = .err := by
  simp [pointOnExt, h]

theorem pointOn_unknown_option (id : String) (opt : Int) (n s : Dy) (h : opt ≠ 0 ∧ opt ≠ 1) : pointOnExt id opt n s = .err := by
  unfold pointOnExt
  split
  · rfl
  · split
    · rfl
    · simp [h.1, h.2]

theorem pointOn_counts (id : String) (opt : Int) (n s : Dy) (l : List GeoPt) (h : pointOnExt id opt n s = .ok l) :
    (opt = 0 ∧ l.length = 8) ∨ (opt = 1 ∧ l.length = 1) := by
  unfold pointOnExt at h
  split at h
  · cases h
  · split at h
    · cases h
    · split at h
      · rename_i h1
        simp only [Outcome.ok.injEq] at h; subst h; exact Or.inr ⟨h1, rfl⟩
      · split at h
        · rename_i h0
          simp only [Outcome.ok.injEq] at h; subst h; exact Or.inl ⟨h0, by simp [vertices]⟩
        · cases h

theorem pointOn_no_panic (id : String) (opt : Int) (n s : Dy) :
    pointOnExt id opt n s ≠ .panic ∧ pointOnSp id opt n s ≠ .panic := by
  have h1 : ∀ id, pointOnExt id opt n s ≠ .panic := by
    intro id; unfold pointOnExt
    split; · simp
    split; · simp
    split; · simp
    split <;> simp
  refine ⟨h1 id, ?_⟩
  unfold pointOnSp
  split
  · simp
  · exact h1 _

-- evaluated instances: `lon_edges_exact` at the column of the library's test point (shape/point_test.go), `alt_edges_exact` at f = −1
example : westLon 29803148 25 = ⟨360 * 29803148 - 180 * 2 ^ 25, -25⟩ := by decide +kernel
example : (altOf (-1) 25).1 = ⟨-1, 0⟩ := by decide

end SpatialId.C02
