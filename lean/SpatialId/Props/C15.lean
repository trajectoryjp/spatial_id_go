/-
C15 — invalid input is rejected with an error, never a panic or a silent answer.
The rejection theorems of every error-returning model function, collected; each model function is tied to its Go
function by its own op family, and the op family `reject` drives all of them with a high rate of malformed strings.
The driver additionally checks on the implementation's own answers that a malformed ID never yields a non-error result.
-/
import SpatialId.Props.C02
import SpatialId.Props.C04
import SpatialId.Props.C05
import SpatialId.Props.C08
import SpatialId.Props.C11
import SpatialId.Props.C13
namespace SpatialId.C15
open SpatialId F64

/-- a string without exactly five `/`-separated fields is not an extended ID -/
theorem ext_arity (s : String) (h : (splitSlash s).length ≠ 5) : parseExt s = none := by
  unfold parseExt
  split
  · rename_i hs; rw [hs] at h; simp at h
  · rfl

/-- a field that is not a decimal int64 makes the ID malformed (any of the five fields) -/
theorem ext_nonint (a b c d e : String) (s : String) (hs : splitSlash s = [a, b, c, d, e])
    (h : parseInt64 a = none ∨ parseInt64 b = none ∨ parseInt64 c = none ∨ parseInt64 d = none ∨ parseInt64 e = none) :
    parseExt s = none := by
  unfold parseExt
  rw [hs]
  rcases h with h | h | h | h | h <;> simp [h]

/-! what `strconv.ParseInt(·, 10, 64)` accepts: optional sign, at least one digit, only digits, within int64 -/
theorem parseInt64_empty : parseInt64 "" = none := by decide
theorem parseInt64_sign_only : parseInt64 "-" = none ∧ parseInt64 "+" = none := by decide
theorem parseInt64_space : parseInt64 " 1" = none ∧ parseInt64 "1 " = none := by decide
theorem parseInt64_overflow : parseInt64 "9223372036854775808" = none ∧ parseInt64 "-9223372036854775809" = none ∧
    parseInt64 "9223372036854775807" = some 9223372036854775807 := by decide
theorem parseInt64_noncanonical : parseInt64 "+5" = some 5 ∧ parseInt64 "007" = some 7 ∧ parseInt64 "-0" = some 0 := by decide

/-- a spatial ID needs exactly four integer fields -/
theorem sp_arity (s : String) (h : (splitSlash s).length ≠ 4) : spAttrs s = none ∧ sp2ext1 s = none := by
  constructor
  · unfold spAttrs
    split
    · simp_all
    · rfl
  · rw [C10.sp2ext1_eq, C10.sp2ext_arity _ h]; rfl

/-! ### every list operation fails as a whole on a malformed element or an out-of-range zoom -/

theorem parseAll_none (ids : List String) (s : String) (hs : s ∈ ids) (h : parseExt s = none) : parseAll ids = none :=
  mapM_option_none hs h

theorem change_rejects (ids : List String) (H V : Int) (s : String) (hs : s ∈ ids) (h : parseExt s = none) :
    changeExt ids H V = .err := C03.changeExt_malformed_err ids H V (parseAll_none ids s hs h)
theorem change_zoom (ids : List String) (H V : Int) (h : ¬ (0 ≤ H ∧ H ≤ 35 ∧ 0 ≤ V ∧ V ≤ 35)) : changeExt ids H V = .err :=
  C03.changeExt_zoom_err ids H V h
theorem merge_rejects (ids : List String) (H V : Int) (s : String) (hs : s ∈ ids) (h : parseExt s = none) :
    mergeExt ids H V = .err := C04.mergeExt_malformed_err ids H V (parseAll_none ids s hs h)
theorem merge_zoom (ids : List String) (H V : Int) (h : ¬ (0 ≤ H ∧ H ≤ 35 ∧ 0 ≤ V ∧ V ≤ 35)) : mergeExt ids H V = .err :=
  C04.mergeExt_zoom_err ids H V h
theorem nLayer_rejects (ids : List String) (H V : Int) (s : String) (hs : s ∈ ids) (h : parseExt s = none) :
    nN ids H V = .err := C08.nLayer_malformed_err ids H V (parseAll_none ids s hs h)
theorem nLayer_negative (ids : List String) (H V : Int) (h : H < 0 ∨ V < 0) : nN ids H V = .err :=
  C08.nLayer_neg_err ids H V h

theorem sp2ext_rejects (ids : List String) (s : String) (hs : s ∈ ids) (h : sp2ext1 s = none) : sp2ext ids = .err :=
  congrArg Outcome.ofOption (mapM_option_none hs h)

/-- the spatial-ID wrappers: a spatial ID with the wrong arity fails the conversion -/
theorem changeSp_rejects (ids : List String) (Z : Int) (s : String) (hs : s ∈ ids) (h : sp2ext1 s = none) :
    changeSp ids Z = .err := by
  rw [changeSp, sp2ext_rejects ids s hs h]
theorem mergeSp_rejects (ids : List String) (Z : Int) (s : String) (hs : s ∈ ids) (h : sp2ext1 s = none) :
    mergeSp ids Z = .err := by
  rw [mergeSp, sp2ext_rejects ids s hs h]

/-- the shift helpers have no error result: a malformed ID gives the empty string / empty strings -/
theorem shift_empty_on_bad (id : String) (dx dy dv : Int) (h : parseExt id = none) : shift id dx dy dv = "" :=
  C07.shift_malformed id dx dy dv h
theorem neighbours_empty_on_bad (id : String) (h : parseExt id = none) :
    n6 id = List.replicate 6 "" ∧ n8 id = List.replicate 8 "" ∧ n26 id = List.replicate 26 "" := by
  simp [n6, n8, n26, h]

theorem overlap_rejects (a b : String) (h : parseExt a = none ∨ parseExt b = none) : overlapExt a b = .err :=
  C05.overlapExt_nonint_err a b h

theorem overlapSp_rejects (a b : String) (h : spKey a = none ∨ spKey b = none) : overlapSp a b = .err :=
  h.elim (C05.sp_rejects [a] [b] a (.inl (List.mem_singleton_self a)))
    (C05.sp_rejects [a] [b] b (.inr (List.mem_singleton_self b)))

/-- array forms: a malformed ID anywhere in either list is an error — also after an overlapping pair and when the other
list is empty (D14/D18 fixed: no early return): `C05.arr_rejects`, `C05.sp_rejects` -/
theorem overlapArr_rejects (as bs : List String) (h : allExt as = false ∨ allExt bs = false) :
    overlapExtArr as bs = .err := C05.arr_rejects as bs h

theorem overlapSpArr_rejects (as bs : List String) (s : String) (hs : s ∈ as ∨ s ∈ bs) (h : spKey s = none) :
    overlapSpArr as bs = .err := C05.sp_rejects as bs s hs h

theorem setLat_some (lat t : Dy) (h : setLat lat = some t) : lt latLimit (F64.abs t) = false := by
  simp only [setLat, Option.ite_none_left_eq_some, Option.some.injEq] at h
  obtain ⟨c, rfl⟩ := h
  simpa using c

theorem newPoint_eq_some (lon lat alt : Dy) (p : GeoPt) :
    newPoint lon lat alt = some p ↔ lt c180 (F64.abs lon) = false ∧ ∃ t, setLat lat = some t ∧ p = ⟨lon, t, alt⟩ := by
  unfold newPoint
  cases lt c180 (F64.abs lon) <;> cases setLat lat <;> simp [eq_comm]

/-- **newPoint_domain**: accepted ⇒ |lon| ≤ 180 and the stored latitude is within ±85.0511287798 -/
theorem newPoint_domain (lon lat alt : Dy) (p : GeoPt) (h : newPoint lon lat alt = some p) :
    lt c180 (F64.abs lon) = false ∧ lt latLimit (F64.abs p.lat) = false := by
  obtain ⟨h1, t, ht, rfl⟩ := (newPoint_eq_some lon lat alt p).mp h
  exact ⟨h1, setLat_some lat t ht⟩

/-- **newPoint_stores**: longitude and altitude are stored unchanged -/
theorem newPoint_stores (lon lat alt : Dy) (p : GeoPt) (h : newPoint lon lat alt = some p) : p.lon = lon ∧ p.alt = alt := by
  obtain ⟨_, t, _, rfl⟩ := (newPoint_eq_some lon lat alt p).mp h
  exact ⟨rfl, rfl⟩

theorem newPoint_rejects_lon (lon lat alt : Dy) (h : lt c180 (F64.abs lon) = true) : newPoint lon lat alt = none := by
  simp [newPoint, h]

/-- kernel-evaluated domain edges on the binary64 model: ±180 and ±85.0511287798 are accepted; the double after 180 and a
latitude far beyond the limit (`8505112877981`) are not -/
theorem newPoint_edges :
    (newPoint ⟨180, 0⟩ latLimit zero).isSome ∧ (newPoint ⟨-180, 0⟩ (neg latLimit) zero).isSome ∧
    (newPoint ⟨180 * 2 ^ 45 + 1, -45⟩ zero zero).isNone ∧ (newPoint zero ⟨8505112877981, -0⟩ zero).isNone := by
  decide +kernel

/-! point lookup (zoom outside 0..35, nil points): `C01.points_zoom_err`, `C01.points_nil_err`;
geometry: `C02.pointOn_malformed`, `C02.pointOn_unknown_option`; tiles: `C13.tile_all_or_nothing`, `C13.newTile_domain`;
quadkeys: `C11.extToQV_zoom_err`, `C11.qkCheckZoom_iff` — these modules are part of this property's obligation list. -/

theorem extToQV_rejects (ids : List String) (outH outV : Int) (s : String) (hs : s ∈ ids) (h : parseExt s = none) :
    extToQV ids outH outV = .err := by
  simp only [extToQV, mapM_option_none hs, h, ite_self]

theorem extToQA_rejects (ids : List String) (q a E O : Int) (s : String) (hs : s ∈ ids) (h : parseExt s = none) :
    extToQA ids q a E O = .err := by
  simp only [extToQA, mapM_option_none hs, h, ite_self]

/-! ### never a panic: no model function of an error-returning API can produce `panic` -/
theorem never_panic (ids ids2 : List String) (a : String) (H V : Int) (n s : Dy) (ts : List Tile) (qs : List QV) :
    changeExt ids H V ≠ .panic ∧ mergeExt ids H V ≠ .panic ∧ nN ids H V ≠ .panic ∧
    overlapSpArr ids ids2 ≠ .panic ∧ sp2ext ids ≠ .panic ∧ ext2sp ids ≠ .panic ∧
    pointOnExt a H n s ≠ .panic ∧ pointOnSp a H n s ≠ .panic ∧ tilesToExt ts H V H ≠ .panic ∧
    qvToExt qs H V ≠ .panic ∧ extToQV ids H V ≠ .panic ∧ extToQA ids H V H V ≠ .panic :=
  ⟨C03.changeExt_no_panic ids H V, C04.mergeExt_no_panic ids H V, C08.nLayer_no_panic ids H V,
   C05.sp_no_panic ids ids2, (C10.notation_no_panic ids).1, (C10.notation_no_panic ids).2,
   (C02.pointOn_no_panic a H n s).1, (C02.pointOn_no_panic a H n s).2, C13.tiles_no_panic ts H V H,
   (C11.conversions_no_panic qs ids H V H V).1, (C11.conversions_no_panic qs ids H V H V).2.1,
   (C11.conversions_no_panic qs ids H V H V).2.2⟩

/-- the overlap checks cannot panic on any strings: `C05.overlapExt_no_panic`, `C05.overlapExtArr_no_panic`, `C05.sp_no_panic` -/
theorem overlap_no_panic (a b : String) (as bs : List String) :
    overlapExt a b ≠ .panic ∧ overlapExtArr as bs ≠ .panic ∧ overlapSpArr as bs ≠ .panic :=
  ⟨C05.overlapExt_no_panic a b, C05.overlapExtArr_no_panic as bs, C05.sp_no_panic as bs⟩

end SpatialId.C15
