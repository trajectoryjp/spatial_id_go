/-
C08 (count) — where the stencil is narrower than the grid, the N-layer neighbourhood of a single voxel has exactly
(2H+1)²(2V+1) − 1 elements: the shifts by the non-zero offsets of the box are pairwise different.
(Finset cardinalities from Mathlib; the membership characterisation and the injectivity of the shift come from C08.)
-/
import SpatialId.Props.C08
import Mathlib.Data.Int.Interval
import Mathlib.Data.Finset.Prod
import Mathlib.Data.Finset.Card
import Mathlib.Data.Finset.Image
namespace SpatialId.C08
open SpatialId

def box (H V : Int) : Finset Off := (Finset.Icc (-H) H ×ˢ (Finset.Icc (-H) H ×ˢ Finset.Icc (-V) V)).erase (0, 0, 0)

theorem mem_box (H V : Int) (d : Off) :
    d ∈ box H V ↔ (-H ≤ d.1 ∧ d.1 ≤ H) ∧ (-H ≤ d.2.1 ∧ d.2.1 ≤ H) ∧ (-V ≤ d.2.2 ∧ d.2.2 ≤ V) ∧ d ≠ (0, 0, 0) := by
  simp only [box, Finset.mem_erase, Finset.mem_product, Finset.mem_Icc, and_comm (a := d ≠ (0, 0, 0)), and_assoc]

theorem card_box (H V : Int) (hH : 0 ≤ H) (hV : 0 ≤ V) :
    ((box H V).card : Int) + 1 = (2 * H + 1) * (2 * H + 1) * (2 * V + 1) := by
  have e1 : ((H + 1 - -H).toNat : Int) = 2 * H + 1 := by omega
  have e2 : ((V + 1 - -V).toNat : Int) = 2 * V + 1 := by omega
  rw [box, ← Nat.cast_succ, Nat.succ_eq_add_one,
    Finset.card_erase_add_one (by simp only [Finset.mem_product, Finset.mem_Icc]; omega)]
  simp only [Finset.card_product, Int.card_Icc, Nat.cast_mul, e1, e2, Int.mul_assoc]

/-- **count_general**: `2H+1 ≤ 2^h` ⇒ a single voxel has exactly `(2H+1)²(2V+1) − 1` distinct voxels in its N-layer
neighbourhood -/
theorem count_general (e : Ext) (hh : 0 ≤ e.h) (H V : Int) (hH : 0 ≤ H) (hV : 0 ≤ V)
    (hw : 2 * H + 1 ≤ 2 ^ e.h.toNat) :
    ((nNE [e] H V).length : Int) = (2 * H + 1) * (2 * H + 1) * (2 * V + 1) - 1 := by
  have hset : (nNE [e] H V).toFinset = (box H V).image (sh e) := by
    ext o
    simp only [List.mem_toFinset, mem_nNE_single, Finset.mem_image, mem_box, and_assoc, eq_comm]
  have hinj : Set.InjOn (sh e) (box H V) := fun d hd d' hd' h => by
    rw [Finset.mem_coe, mem_box] at hd hd'
    exact sh_inj e hh d d' H hw hd.1 hd.2.1 hd'.1 hd'.2.1 h
  rw [← List.toFinset_card_of_nodup (nLayer_nodup [e] H V), hset, Finset.card_image_of_injOn hinj]
  exact eq_sub_of_add_eq (card_box H V hH hV)

-- the 26-neighbourhood is the case H = V = 1
example : (2 * 1 + 1) * (2 * 1 + 1) * (2 * 1 + 1) - 1 = (26 : Int) := by decide

end SpatialId.C08
