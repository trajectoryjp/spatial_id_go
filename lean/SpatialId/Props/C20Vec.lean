/-
C20 (second part) — the 3-D vector, line, matrix and quaternion helpers of `common/spatial` satisfy the usual identities.

The definitions of `Model/Vec.lean` are generic in the scalar type. Here they are instantiated with an arbitrary commutative
ring (line, vector and matrix identities: polynomial identities, true of every scalar type that is a ring), with a field that
has the square root needed and with ℝ (quaternion between two vectors), and with binary64 itself (`MaxPoint`/`MinPoint`).
In binary64 the same code satisfies the identities only up to rounding: that part is checked numerically on the
implementation's own answers by the driver (ops `vline`, `vmat`, `vquat`), and the binary64 instance of these very definitions
is compared bit for bit with the Go code (ops `vadd` … `vmulvec`).
-/
import SpatialId.Model.Vec
import Mathlib.Tactic.LinearCombination
import Mathlib.Tactic.NormNum
import Mathlib.Analysis.Real.Sqrt
import SpatialId.Lemmas.F64Order
import SpatialId.Lemmas.Core
namespace SpatialId.Vec

@[ext] theorem V3.ext {α : Type} {a b : V3 α} (hx : a.x = b.x) (hy : a.y = b.y) (hz : a.z = b.z) :
    a = b := by
  cases a; cases b; simp only [V3.mk.injEq]; exact ⟨hx, hy, hz⟩

@[ext] theorem M3.ext {α : Type} {a b : M3 α} (h00 : a.m00 = b.m00) (h01 : a.m01 = b.m01)
    (h02 : a.m02 = b.m02) (h10 : a.m10 = b.m10) (h11 : a.m11 = b.m11) (h12 : a.m12 = b.m12) (h20 : a.m20 = b.m20)
    (h21 : a.m21 = b.m21) (h22 : a.m22 = b.m22) : a = b := by
  cases a; cases b; simp only [M3.mk.injEq]; exact ⟨h00, h01, h02, h10, h11, h12, h20, h21, h22⟩

end SpatialId.Vec

namespace SpatialId.C20Vec
open SpatialId.Vec

section ring
variable {α : Type} [CommRing α]

theorem vadd_comm (a b : V3 α) : a.add b = b.add a := by
  simp only [V3.add]; ext <;> ring

theorem vsub_add_cancel (a b : V3 α) : (a.sub b).add b = a := by
  simp only [V3.add, V3.sub]; ext <;> ring

/-- `NewVectorFromPoints p q` carries `p` to `q` -/
theorem translate_vecFromPoints (p q : V3 α) : translate p (vecFromPoints p q) = q :=
  (vadd_comm _ _).trans (vsub_add_cancel q p)

/-- **line_start**: a line's parameter 0 gives its start point -/
theorem line_start (s e : V3 α) : (lineFromPoints s e).toPoint 0 = s := by
  simp only [lineFromPoints, Line.toPoint, translate, V3.add, V3.scale]; ext <;> ring

/-- **line_end**: a line's parameter 1 gives its end point, which is also what `End` returns -/
theorem line_end (s e : V3 α) : (lineFromPoints s e).toPoint 1 = e ∧ (lineFromPoints s e).end_ = e ∧
    (lineFromPoints s e).start = s := by
  refine ⟨?_, translate_vecFromPoints s e, rfl⟩
  simp only [lineFromPoints, Line.toPoint, translate, V3.add, V3.scale, vecFromPoints, V3.sub]; ext <;> ring

theorem line_affine (s e : V3 α) (t : α) :
    (lineFromPoints s e).toPoint t = (s.scale (1 - t)).add (e.scale t) := by
  simp only [lineFromPoints, Line.toPoint, translate, V3.add, V3.scale, vecFromPoints, V3.sub]; ext <;> ring

theorem dot_comm (a b : V3 α) : a.dot b = b.dot a := by
  simp only [V3.dot]; ring

theorem dot_scale (a b : V3 α) (f : α) : (a.scale f).dot b = f * a.dot b := by
  simp only [V3.dot, V3.scale]; ring

theorem cross_anticomm (a b : V3 α) : a.cross b = (b.cross a).scale (-1) := by
  simp only [V3.cross, V3.scale]; ext <;> ring

theorem cross_perp (a b : V3 α) : (a.cross b).dot a = 0 ∧ (a.cross b).dot b = 0 := by
  simp only [V3.cross, V3.dot]; constructor <;> ring

theorem lagrange (a b : V3 α) : (a.cross b).dot (a.cross b) = a.dot a * b.dot b - a.dot b * a.dot b := by
  simp only [V3.cross, V3.dot]; ring

theorem triple (a b c : V3 α) : (a.cross b).cross c = ((b.scale (a.dot c))).sub (a.scale (b.dot c)) := by
  simp only [V3.cross, V3.dot, V3.scale, V3.sub]; ext <;> ring

/-- **mat_assoc**: the matrix product is associative -/
theorem mat_assoc (a b c : M3 α) : (a.mul b).mul c = a.mul (b.mul c) := by
  simp only [M3.mul]; ext <;> ring

/-- **mat_mulVec**: the matrix product agrees with matrix-vector application, `(A·B)v = A(Bv)` -/
theorem mat_mulVec (a b : M3 α) (v : V3 α) : (a.mul b).mulVec v = a.mulVec (b.mulVec v) := by
  simp only [M3.mul, M3.mulVec]; ext <;> ring

theorem mat_one (a : M3 α) (v : V3 α) : M3.one.mul a = a ∧ a.mul M3.one = a ∧ (M3.one : M3 α).mulVec v = v := by
  simp only [M3.mul, M3.mulVec, M3.one]
  refine ⟨?_, ?_, ?_⟩ <;> ext <;> ring

theorem mulVec_add (a : M3 α) (v w : V3 α) : a.mulVec (v.add w) = (a.mulVec v).add (a.mulVec w) := by
  simp only [M3.mulVec, V3.add]; ext <;> ring

/-- the norm of quaternions is multiplicative (so products of unit quaternions are unit quaternions) -/
theorem quat_normSq_mul (p q : Quat α) : (p.mul q).normSq = p.normSq * q.normSq := by
  simp only [Quat.mul, Quat.normSq]; ring

/-- the rotation `q·v·q*` written with vector operations: `(w² − u·u) v + 2 (u·v) u + 2 w (u × v)` -/
theorem rotate_formula (q : Quat α) (v : V3 α) :
    q.rotate 0 v =
      ((v.scale (q.w * q.w - (V3.mk q.x q.y q.z).dot ⟨q.x, q.y, q.z⟩)).add
        ((V3.mk q.x q.y q.z).scale (2 * (V3.mk q.x q.y q.z).dot v))).add
        (((V3.mk q.x q.y q.z).cross v).scale (2 * q.w)) := by
  simp only [Quat.rotate, Quat.mul, Quat.conj, V3.dot, V3.scale, V3.add, V3.cross]; ext <;> ring

/-- **the opposite-vector branch**: a unit axis perpendicular to `s`, turned by π (quaternion `(0, axis)`), is a unit
quaternion and carries `s` onto `-s` -/
theorem quat_opposite (s axis : V3 α) (hu : axis.dot axis = 1) (hp : axis.dot s = 0) :
    (Quat.mk 0 axis.x axis.y axis.z).normSq = 1 ∧
    (Quat.mk 0 axis.x axis.y axis.z).rotate 0 s = s.scale (-1) := by
  constructor
  · simp only [Quat.normSq, V3.dot] at hu ⊢
    linear_combination hu
  · rw [rotate_formula, hu, hp]
    simp only [V3.add, V3.scale]; ext <;> ring

/-- the axis chosen in the opposite branch is perpendicular to the start vector, whichever fallback is taken -/
theorem opposite_axis_perp (s k : V3 α) : (s.cross k).dot s = 0 := (cross_perp s k).1

theorem normSq_scaled (a : V3 α) (w t : α) :
    (Quat.mk w (a.x * t) (a.y * t) (a.z * t)).normSq = w * w + t * t * a.dot a := by
  simp only [Quat.normSq, V3.dot]; ring

theorem rotate_scaled (a v : V3 α) (w t : α) :
    (Quat.mk w (a.x * t) (a.y * t) (a.z * t)).rotate 0 v =
      ((v.scale (w * w - t * t * a.dot a)).add (a.scale (2 * t * t * a.dot v))).add ((a.cross v).scale (2 * w * t)) := by
  simp only [rotate_formula, V3.dot, V3.scale, V3.add, V3.cross]; ext <;> ring

/-- `RotateBetweenVector` without division or square root. With `cos θ = s·e`, `w = cos(θ/2)` and `t·|s × e| = sin(θ/2)`
(`|s × e|² = 1 − (s·e)²` by `lagrange`), the hypotheses `hn`, `hc`, `h1` are `cos² + sin² = 1`, `cos² − sin² = cos θ` and
`2 sin cos = sin θ` for the half angle. -/
theorem quat_cross (s e : V3 α) (w t : α) (hs : s.dot s = 1) (he : e.dot e = 1)
    (hn : w * w + t * t * (1 - s.dot e * s.dot e) = 1) (hc : w * w - t * t * (1 - s.dot e * s.dot e) = s.dot e)
    (h1 : 2 * w * t = 1) :
    (Quat.mk w ((s.cross e).x * t) ((s.cross e).y * t) ((s.cross e).z * t)).normSq = 1 ∧
    (Quat.mk w ((s.cross e).x * t) ((s.cross e).y * t) ((s.cross e).z * t)).rotate 0 s = e := by
  constructor
  · rw [normSq_scaled, lagrange, hs, he, one_mul, hn]
  · -- the axis is perpendicular to `s`, and `(s × e) × s = e − (s·e) s`
    rw [rotate_scaled, (cross_perp s e).1, lagrange, triple, hs, he, one_mul, dot_comm e s, hc, h1]
    simp only [V3.add, V3.sub, V3.scale]; ext <;> ring

end ring

section field
variable {K : Type} [Field K]

/-- the quaternion `RotateBetweenVector` builds in its main branch, from unit vectors `s`, `e` and `S = √(2(1 + s·e))` -/
def rotBetween (s e : V3 K) (S : K) : Quat K :=
  let a := s.cross e
  ⟨S * (1 / 2), a.x * (1 / S), a.y * (1 / S), a.z * (1 / S)⟩

/-- **quat_unit** and **quat_rotates** over any field: for unit vectors `s`, `e` that are not opposite and
`S² = 2(1 + s·e)`, the quaternion is a unit quaternion and the rotation it represents carries `s` onto `e` -/
theorem quat_between (s e : V3 K) (S : K) (h2 : (2 : K) ≠ 0) (hs : s.dot s = 1) (he : e.dot e = 1)
    (hS : S * S = 2 * (1 + s.dot e)) (hS0 : S ≠ 0) :
    (rotBetween s e S).normSq = 1 ∧ (rotBetween s e S).rotate 0 s = e :=
  -- `w = S/2`, `t = 1/S`; cleared of denominators the first two hypotheses read `(S² − 2(1 + s·e)) (S² ∓ 2(1 − s·e)) = 0`
  quat_cross s e (S * (1 / 2)) (1 / S) hs he
    (by field_simp; linear_combination (S ^ 2 - 2 * (1 - s.dot e)) * hS)
    (by field_simp; linear_combination (S ^ 2 + 2 * (1 - s.dot e)) * hS)
    (by field_simp)

/-! the hypotheses of `quat_between` are satisfiable by a non-trivial pair (a rotation by arccos(7/25) about the z axis) -/
example : (rotBetween (⟨1, 0, 0⟩ : V3 ℚ) ⟨7 / 25, 24 / 25, 0⟩ (8 / 5)).normSq = 1 ∧
    (rotBetween (⟨1, 0, 0⟩ : V3 ℚ) ⟨7 / 25, 24 / 25, 0⟩ (8 / 5)).rotate 0 ⟨1, 0, 0⟩ = ⟨7 / 25, 24 / 25, 0⟩ := by
  apply quat_between <;> norm_num [V3.dot]

end field

section real
open Real

/-- `Vector3.Unit` over ℝ -/
noncomputable def unitR (v : V3 ℝ) : V3 ℝ := v.scale (1 / Real.sqrt (v.dot v))

theorem dot_self_nonneg (v : V3 ℝ) : 0 ≤ v.dot v :=
  add_nonneg (add_nonneg (mul_self_nonneg _) (mul_self_nonneg _)) (mul_self_nonneg _)

theorem unitR_dot (v : V3 ℝ) (hv : v.dot v ≠ 0) : (unitR v).dot (unitR v) = 1 := by
  rw [unitR, dot_scale, dot_comm v (v.scale _), dot_scale, ← mul_assoc, one_div, ← mul_inv,
    Real.mul_self_sqrt (dot_self_nonneg v)]
  exact inv_mul_cancel₀ hv

/-- the cosine of two unit vectors is at least −1 (so the square root in `RotateBetweenVector` is of a non-negative number) -/
theorem one_add_cos_nonneg (s e : V3 ℝ) (hs : s.dot s = 1) (he : e.dot e = 1) : 0 ≤ 1 + s.dot e := by
  have h : (s.add e).dot (s.add e) = s.dot s + 2 * s.dot e + e.dot e := by simp only [V3.dot, V3.add]; ring
  linarith [dot_self_nonneg (s.add e)]

/-- **quat_unit / quat_rotates (main branch of `RotateBetweenVector`)**: for any two non-zero real vectors that are not
opposite, the quaternion built from their unit vectors, `cos` and `s = √(2(1+cos))` is a unit quaternion, and the rotation
`q·v·q*` carries the first direction onto the second -/
theorem rotateBetween_real (a b : V3 ℝ) (ha : a.dot a ≠ 0) (hb : b.dot b ≠ 0)
    (hc : 0 < 1 + (unitR a).dot (unitR b)) :
    (rotBetween (unitR a) (unitR b) (Real.sqrt (2 * (1 + (unitR a).dot (unitR b))))).normSq = 1 ∧
    (rotBetween (unitR a) (unitR b) (Real.sqrt (2 * (1 + (unitR a).dot (unitR b))))).rotate 0 (unitR a) = unitR b := by
  have hpos : 0 < 2 * (1 + (unitR a).dot (unitR b)) := mul_pos two_pos hc
  exact quat_between _ _ _ two_ne_zero (unitR_dot a ha) (unitR_dot b hb) (Real.mul_self_sqrt hpos.le)
    (Real.sqrt_pos.mpr hpos).ne'

/-- **the opposite branch**: for a unit vector `s` and any helper vector `k` not parallel to it, the half-turn about the
normalised `s × k` is a unit quaternion carrying `s` onto `-s` -/
theorem rotateOpposite_real (s k : V3 ℝ) (hk : (s.cross k).dot (s.cross k) ≠ 0) :
    let ax := unitR (s.cross k)
    (Quat.mk 0 ax.x ax.y ax.z).normSq = 1 ∧ (Quat.mk 0 ax.x ax.y ax.z).rotate 0 s = s.scale (-1) :=
  quat_opposite s _ (unitR_dot _ hk) (by rw [unitR, dot_scale, opposite_axis_perp, mul_zero])

/-- the fallback of the opposite branch always finds an axis: a non-zero vector parallel to the z axis is not parallel to the
x axis -/
theorem fallback_axis (s : V3 ℝ) (hs : s.dot s ≠ 0) (hz : s.cross ⟨0, 0, 1⟩ = ⟨0, 0, 0⟩) :
    (s.cross ⟨1, 0, 0⟩).dot (s.cross ⟨1, 0, 0⟩) ≠ 0 := by
  -- `|s|² = |s × x|² + s.x²`, and `s.x = 0` is the second component of `hz`
  have hx : s.z * 0 - s.x * 1 = 0 := congrArg V3.y hz
  intro h
  simp only [V3.cross, V3.dot] at h hs
  exact hs (by linear_combination h - s.x * hx)

end real

section maxpoint
open SpatialId.F64 SpatialId.Vec.Dy

/-- the folds of `maxPoint` / `minPoint` keep a pair (point, its projection) and compare projections as binary64 values -/
theorem best_fold (vec : V3 F64.Dy) (R : ℚ → ℚ → Prop) (hrefl : ∀ q, R q q) (htrans : ∀ {x y z}, R x y → R y z → R x z)
    (c : F64.Dy → F64.Dy → Bool) (h1 : ∀ x y, c x y = true → R (val x) (val y)) (h2 : ∀ x y, ¬ c x y = true → R (val y) (val x))
    (p0 : V3 F64.Dy) (rest : List (V3 F64.Dy)) (r : V3 F64.Dy)
    (hr : ((p0 :: rest).foldl (fun (acc : V3 F64.Dy × F64.Dy) p => if c acc.2 (p.dot vec) then (p, p.dot vec) else acc)
      (p0, p0.dot vec)).1 = r) :
    r ∈ p0 :: rest ∧ ∀ p ∈ p0 :: rest, R (val (p.dot vec)) (val (r.dot vec)) := by
  obtain ⟨i1, -, i3⟩ := foldl_select (fun a b : V3 F64.Dy × F64.Dy => R (val a.2) (val b.2)) (fun p => (p, p.dot vec))
    (fun acc p => c acc.2 (p.dot vec) = true) (fun _ => hrefl _) htrans (fun _ _ => h1 _ _) (fun _ _ => h2 _ _)
    (p0 :: rest) (p0, p0.dot vec)
  obtain ⟨p, hp, e⟩ : ∃ p ∈ p0 :: rest, _ = (p, p.dot vec) := i1.elim (fun e => ⟨p0, List.mem_cons_self, e⟩) id
  rw [e] at hr i3
  exact hr ▸ ⟨hp, i3⟩

/-- **maxPoint_spec**: `MaxPoint` rejects exactly the empty list, and otherwise returns a listed point whose projection on
`vec` (as computed in binary64) is at least that of every listed point -/
theorem maxPoint_spec (pts : List (V3 F64.Dy)) (vec : V3 F64.Dy) :
    (maxPoint pts vec = none ↔ pts = []) ∧
    ∀ r, maxPoint pts vec = some r → r ∈ pts ∧ ∀ p ∈ pts, val (p.dot vec) ≤ val (r.dot vec) := by
  cases pts with
  | nil => simp [maxPoint]
  | cons p0 rest =>
    refine ⟨by simp [maxPoint], fun r hr => ?_⟩
    simp only [maxPoint, Option.some.injEq] at hr
    exact best_fold vec (· ≤ ·) le_refl le_trans (fun a b => F64.lt a b) (fun _ _ => val_le_of_lt)
      (fun _ _ => val_le_of_not_lt) p0 rest r hr

/-- **minPoint_spec**: `MinPoint` rejects exactly the empty list, and otherwise returns a listed point whose projection on
`vec` (as computed in binary64) is at most that of every listed point -/
theorem minPoint_spec (pts : List (V3 F64.Dy)) (vec : V3 F64.Dy) :
    (minPoint pts vec = none ↔ pts = []) ∧
    ∀ r, minPoint pts vec = some r → r ∈ pts ∧ ∀ p ∈ pts, val (r.dot vec) ≤ val (p.dot vec) := by
  cases pts with
  | nil => simp [minPoint]
  | cons p0 rest =>
    refine ⟨by simp [minPoint], fun r hr => ?_⟩
    simp only [minPoint, Option.some.injEq] at hr
    exact best_fold vec (· ≥ ·) le_refl (fun h h' => le_trans h' h) (fun a b => F64.lt b a)
      (fun _ _ => val_le_of_lt) (fun _ _ => val_le_of_not_lt) p0 rest r hr

end maxpoint

end SpatialId.C20Vec
