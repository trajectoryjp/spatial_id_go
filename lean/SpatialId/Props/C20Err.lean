/-
C20, the vector/line helpers in binary64: the identities of `Props/C20Vec.lean` hold over every commutative ring; in binary64
they hold up to rounding. This file proves two such rounding bounds:
  * `line_end_close`  — `Line3.End()` and `Line3.ToPoint(1)` of the line through `s` and `e` return `e` up to
                        `2^-51·(|s|+|e|) + 2^-1073` per component (two roundings: `e − s`, then `s + (e − s)`);
  * `dot_err`         — a product is one rounding (`F64.mul_err`); the dot product of two vectors is within `2^-50·Σ|aᵢ||bᵢ| + 2^-1072`
                        of the exact one.
-/
import SpatialId.Model.Vec
import SpatialId.Lemmas.F64Err
import SpatialId.Lemmas.F64Congr
namespace SpatialId.C20Err
open SpatialId F64

/-- the pure inequality behind `line_end_close`: `r ≈ S + d`, `d ≈ E − S` -/
theorem two_roundings (S E d r u c : ℚ) (hu : 0 < u) (hu4 : u ≤ 1 / 4) (hc : 0 < c)
    (h1 : |d - (E - S)| ≤ u * |E - S| + c) (h2 : |r - (S + d)| ≤ u * |S + d| + c) :
    |r - E| ≤ 4 * u * (|S| + |E|) + 4 * c := by
  have hS := abs_nonneg S; have hE := abs_nonneg E
  have hA := mul_nonneg hu.le (add_nonneg hS hE)
  have b1 : |E - S| ≤ |S| + |E| := by have := abs_sub E S; linarith
  have e1 := round_first hu.le b1 h1
  have e2 := round_chain (x := S + d) (X := E) hu.le hu4 (le_add_of_nonneg_left hS)
    (by rw [show S + d - E = d - (E - S) by ring]; exact e1) h2
  exact units_le hA hc.le (by norm_num) e2

/-- **line_end_close** — one component of `Line3.End()` / `ToPoint(1)` of the line from `s` to `e` -/
theorem line_end_close (s e : Dy) :
    |val (add s (sub e s)) - val e| ≤ (2 : ℚ) ^ (-51 : Int) * (|val s| + |val e|) + (2 : ℚ) ^ (-1073 : Int) := by
  have := two_roundings _ _ _ _ _ _ (two_zpow_pos _) (by norm_num) (two_zpow_pos _) (sub_err e s) (add_err s (sub e s))
  rwa [four_crumb, show 4 * (2 : ℚ) ^ (-53 : Int) = (2 : ℚ) ^ (-51 : Int) by norm_num] at this

theorem mul_one_val (d : Dy) (h : RepVal (val d)) : val (mul ⟨1, 0⟩ d) = val d :=
  mul_val_eq (by simp [val]) h

/-- `ToPoint(1)` and `End()` return the same value (multiplying the direction by the binary64 `1` is exact, and addition is a
function of the values of its operands) -/
theorem toPoint_one_eq_end (s e : Dy) : val (add s (mul ⟨1, 0⟩ (sub e s))) = val (add s (sub e s)) :=
  add_val_congr _ _ _ _ rfl (mul_one_val _ (by unfold sub; exact repVal_add _ _))

/-- **toPoint_one_close** — one component of `Line3.ToPoint(1)`: `s + 1·(e − s)` -/
theorem toPoint_one_close (s e : Dy) :
    |val (add s (mul ⟨1, 0⟩ (sub e s))) - val e| ≤ (2 : ℚ) ^ (-51 : Int) * (|val s| + |val e|) + (2 : ℚ) ^ (-1073 : Int) := by
  rw [toPoint_one_eq_end]; exact line_end_close s e

/-- the pure inequality behind `dot_err`: three rounded products, two rounded sums -/
theorem five_roundings (P1 P2 P3 p1 p2 p3 s1 s2 u c : ℚ) (hu : 0 < u) (hu4 : u ≤ 1 / 4) (hc : 0 < c)
    (h1 : |p1 - P1| ≤ u * |P1| + c) (h2 : |p2 - P2| ≤ u * |P2| + c) (h3 : |p3 - P3| ≤ u * |P3| + c)
    (h4 : |s1 - (p1 + p2)| ≤ u * |p1 + p2| + c) (h5 : |s2 - (s1 + p3)| ≤ u * |s1 + p3| + c) :
    |s2 - (P1 + P2 + P3)| ≤ 8 * u * (|P1| + |P2| + |P3|) + 8 * c := by
  have n1 := abs_nonneg P1; have n2 := abs_nonneg P2; have n3 := abs_nonneg P3
  have hA := mul_nonneg hu.le (add_nonneg (add_nonneg n1 n2) n3)
  have a12 := abs_add_le P1 P2
  have e1 := round_first hu.le (A := |P1| + |P2| + |P3|) (by linarith) h1
  have e2 := round_first hu.le (A := |P1| + |P2| + |P3|) (by linarith) h2
  have e3 := round_first hu.le (A := |P1| + |P2| + |P3|) (by linarith) h3
  have e4 := round_chain hu.le hu4 (by linarith : |P1 + P2| ≤ |P1| + |P2| + |P3|) (approx_add e1 e2) h4
  have e5 := round_chain hu.le hu4 (by have := abs_add_le (P1 + P2) P3; linarith) (approx_add e4 e3) h5
  exact units_le hA hc.le (by norm_num) e5

open SpatialId.Vec in
/-- **dot_err** — the binary64 dot product `a.x*b.x + a.y*b.y + a.z*b.z` (left to right) against the exact one -/
theorem dot_err (a b : V3 Dy) :
    |val (add (add (mul a.x b.x) (mul a.y b.y)) (mul a.z b.z)) - (val a.x * val b.x + val a.y * val b.y + val a.z * val b.z)| ≤
      (2 : ℚ) ^ (-50 : Int) * (|val a.x * val b.x| + |val a.y * val b.y| + |val a.z * val b.z|) + (2 : ℚ) ^ (-1072 : Int) := by
  have := five_roundings _ _ _ _ _ _ _ _ _ _ (two_zpow_pos _) (by norm_num) (two_zpow_pos _)
    (mul_err a.x b.x) (mul_err a.y b.y) (mul_err a.z b.z) (add_err _ _) (add_err _ _)
  rwa [eight_crumb, show 8 * (2 : ℚ) ^ (-53 : Int) = (2 : ℚ) ^ (-50 : Int) by norm_num] at this

end SpatialId.C20Err
