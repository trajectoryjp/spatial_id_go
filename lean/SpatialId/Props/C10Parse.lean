/-
C10 (and the string interface every other property goes through): the textual form of an ID is lossless.
  * print-then-parse is the identity on every ID with int64 components, in particular on every valid ID;
  * hence the printed form is injective: two different voxels never share a string;
  * the two notation conversions, applied to printed IDs, give the printed ID of the same voxel in the other notation.
No bound on zoom or index other than int64 (the conversions of printed IDs need none).
-/
import SpatialId.Lemmas.ParsePrint
import SpatialId.Model.Notation
namespace SpatialId.C10Parse
open SpatialId

/-- every valid ID survives print-then-parse: the string interface loses nothing on the documented domain. -/
theorem id_roundtrip (e : Ext) (h : e.valid) : parseExt e.id = some e := parseExt_id e h.int64

theorem id_roundtrip_int64 (e : Ext) (h : e.int64) : parseExt e.id = some e := parseExt_id e h

theorem id_injective (e₁ e₂ : Ext) (h₁ : e₁.int64) (h₂ : e₂.int64) (h : e₁.id = e₂.id) : e₁ = e₂ := by
  have a := parseExt_id e₁ h₁
  rw [h, parseExt_id e₂ h₂] at a
  exact (Option.some.inj a).symm

/-- spatial-ID notation → extended notation, on the printed form of a voxel. -/
theorem sp2ext1_print (e : Ext) : sp2ext1 e.spId = some (Ext.id ⟨e.h, e.x, e.y, e.h, e.f⟩) := by
  rw [sp2ext1, splitSlash_spId]; rfl

/-- extended notation → spatial-ID notation, on the printed form of a voxel. -/
theorem ext2sp1_print (e : Ext) : ext2sp1 e.id = some e.spId := by
  rw [ext2sp1, splitSlash_id]; rfl

/-- the round trip of the two conversions on a printed spatial ID: the same string. -/
theorem sp_ext_sp (e : Ext) : (sp2ext1 e.spId).bind ext2sp1 = some e.spId := by
  rw [sp2ext1_print, Option.bind_some, ext2sp1_print]; rfl

/-- the converted ID denotes the same voxel (with both zooms equal to the spatial zoom). -/
theorem sp2ext1_parse (e : Ext) (h : e.int64) :
    (sp2ext1 e.spId).bind parseExt = some ⟨e.h, e.x, e.y, e.h, e.f⟩ := by
  rw [sp2ext1_print, Option.bind_some]
  exact parseExt_id _ ⟨h.1, h.2.1, h.2.2.1, h.1, h.2.2.2.2⟩

/-- a list of printed IDs parses back to the list of voxels: the hypothesis `parseAll ids = some es` of the list-level theorems
(`C03.changeExt_ok`, C11List) is met by the printed form of EVERY list of valid IDs -/
theorem parseAll_ids (es : List Ext) (h : ∀ e ∈ es, e.int64) : parseAll (es.map Ext.id) = some es :=
  (mapM_option_eq_some parseExt _ es).mpr
    (by rw [List.map_map]; exact List.map_congr_left fun e he => parseExt_id e (h e he))

theorem parseAll_ids_valid (es : List Ext) (h : ∀ e ∈ es, e.valid) : parseAll (es.map Ext.id) = some es :=
  parseAll_ids es (fun e he => (h e he).int64)

example : (⟨25, 29803148, 13212522, 25, -3⟩ : Ext).valid := by decide

end SpatialId.C10Parse
