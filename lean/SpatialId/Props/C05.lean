/-
C05 — overlap detection answers exactly whether two voxel sets intersect.
Model: SpatialId/Model/Overlap.lean, tied to the four functions of detector/check_spatial_id_overlap.go by the op
families ovE, ovEA, ovS, ovSA.  The radix tree is modelled abstractly (`treeOverlap`): a stored key matches a query
iff one is a prefix of the other; the tree's own code is an oracle (DESIGN §2.7).
-/
import SpatialId.Props.C03
import SpatialId.Lemmas.Parse
import SpatialId.Model.Overlap
namespace SpatialId.C05
open SpatialId

theorem vZoomIdx_out_eq (zi f zo : Int) (h : zo ≤ zi) : vZoomIdx zi f zo = [f / 2 ^ (zi - zo).toNat] :=
  vZoomIdx_out zi f zo h

theorem zoomOne_out (e : Ext) (H V : Int) (hH : H ≤ e.h) (hV : V ≤ e.v) (hx : 0 ≤ e.x) (hy : 0 ≤ e.y) :
    zoomOne H V e = [anc e H V] := SpatialId.zoomOne_out e H V hH hV hx hy

/-! ### the extended check compares the two ancestors at the coarser zoom of each axis -/

/-- the coarser of two zooms, as the Go code picks it -/
theorem coarser_le (a b : Int) : (if a > b then b else a) ≤ a ∧ (if a > b then b else a) ≤ b := by
  split <;> omega

theorem axis_anc_eq_iff {z1 z2 : Int} (h1 : 0 ≤ z1) (h2 : 0 ≤ z2) (i1 i2 : Int) :
    i1 / 2 ^ (z1 - (if z1 > z2 then z2 else z1)).toNat = i2 / 2 ^ (z2 - (if z1 > z2 then z2 else z1)).toNat ↔
      axisMeet z1.toNat z2.toNat i1 i2 := by
  split
  · rw [axisMeet_toNat_ge h2 (by omega), Int.sub_self, Int.toNat_zero, Int.pow_zero, Int.ediv_one]
  · rw [axisMeet_toNat_le h1 (by omega), Int.sub_self, Int.toNat_zero, Int.pow_zero, Int.ediv_one]
    exact eq_comm

/-- **ext_iff_meet (index form)**: the extended check says `true` exactly when the voxels meet -/
theorem overlapE_iff_meets (e1 e2 : Ext) (w1 : C03.wf e1) (w2 : C03.wf e2) :
    overlapE e1 e2 = .ok (decide (meets e1 e2)) := by
  obtain ⟨a1, a2, a3, a4⟩ := w1
  obtain ⟨b1, b2, b3, b4⟩ := w2
  unfold overlapE overlapAt
  rw [changeExtE_single, changeExtE_single, zoomOne_out e1 _ _ (coarser_le _ _).1 (coarser_le _ _).1 a3 a4,
    zoomOne_out e2 _ _ (coarser_le _ _).2 (coarser_le _ _).2 b3 b4]
  rw [Outcome.ok.injEq, Bool.eq_iff_iff, beq_iff_eq, decide_eq_true_eq]
  simp only [meets, anc, Ext.mk.injEq, true_and, axis_anc_eq_iff a1 b1, axis_anc_eq_iff a2 b2]

/-- **ext_iff_meet**: … i.e. exactly when the two regions of space share a point -/
theorem ext_iff_meet (e1 e2 : Ext) (w1 : C03.wf e1) (w2 : C03.wf e2) :
    overlapE e1 e2 = .ok true ↔ (region e1 ∩ region e2).Nonempty := by
  rw [overlapE_iff_meets e1 e2 w1 w2, meets_iff]
  simp

/-- **ext_iff_ancestor**: meeting means ancestor-or-equal on the horizontal and on the vertical axis
(the finer index floor-divided to the coarser zoom equals the coarser index) -/
theorem ext_iff_ancestor (e1 e2 : Ext) :
    meets e1 e2 ↔
      (if e1.h.toNat ≤ e2.h.toNat then e2.x / 2 ^ (e2.h.toNat - e1.h.toNat) = e1.x ∧ e2.y / 2 ^ (e2.h.toNat - e1.h.toNat) = e1.y
        else e1.x / 2 ^ (e1.h.toNat - e2.h.toNat) = e2.x ∧ e1.y / 2 ^ (e1.h.toNat - e2.h.toNat) = e2.y) ∧
      (if e1.v.toNat ≤ e2.v.toNat then e2.f / 2 ^ (e2.v.toNat - e1.v.toNat) = e1.f
        else e1.f / 2 ^ (e1.v.toNat - e2.v.toNat) = e2.f) := by
  unfold meets axisMeet
  rw [← and_assoc]
  refine and_congr ?_ Iff.rfl
  split <;> rfl

theorem meets_refl (e : Ext) : meets e e := by simp [meets, axisMeet]

/-- **ext_symm**, **ext_refl** -/
theorem ext_symm (e1 e2 : Ext) (w1 : C03.wf e1) (w2 : C03.wf e2) : overlapE e1 e2 = overlapE e2 e1 := by
  rw [overlapE_iff_meets e1 e2 w1 w2, overlapE_iff_meets e2 e1 w2 w1]
  simp only [Outcome.ok.injEq, decide_eq_decide]
  exact meets_symm e1 e2

theorem ext_refl (e : Ext) (w : C03.wf e) : overlapE e e = .ok true := by
  rw [overlapE_iff_meets e e w w]; simp [meets_refl]

/-! ### the string-level function is the structured one on well-formed IDs, an error otherwise -/

theorem overlapExt_wellformed (a b : String) (e1 e2 : Ext) (p1 : parseExt a = some e1) (p2 : parseExt b = some e2)
    (z1 : 0 ≤ e1.h ∧ e1.h ≤ 35 ∧ 0 ≤ e1.v ∧ e1.v ≤ 35) (z2 : 0 ≤ e2.h ∧ e2.h ≤ 35 ∧ 0 ≤ e2.v ∧ e2.v ≤ 35) :
    overlapExt a b = overlapE e1 e2 := by
  obtain ⟨a0, a1, a2, a3, a4, sa, ha0, _, _, ha3, _⟩ := parseExt_fields a e1 p1
  obtain ⟨b0, b1, b2, b3, b4, sb, hb0, _, _, hb3, _⟩ := parseExt_fields b e2 p2
  unfold overlapExt overlapExtAt overlapE
  simp only [sa, sb, List.length_cons, List.length_nil, List.getD_cons_zero, List.getD_cons_succ,
    parseInt64Lossy_of_some ha0, parseInt64Lossy_of_some hb0, parseInt64Lossy_of_some ha3,
    parseInt64Lossy_of_some hb3, p1, p2]
  have hz : (checkZoom (if e1.h > e2.h then e2.h else e1.h) && checkZoom (if e1.v > e2.v then e2.v else e1.v)) = true := by
    rw [checkZoom2_iff]
    split <;> split <;> omega
  simp [hz]

theorem overlapExt_arity_err (a b : String) (h : (splitSlash a).length ≠ 5 ∨ (splitSlash b).length ≠ 5) :
    overlapExt a b = .err := by
  unfold overlapExt
  simp only []
  rw [if_pos h]

theorem overlapExtAt_nonint_err (tH tV : Int) (a b : String) (h : parseExt a = none ∨ parseExt b = none) :
    overlapExtAt tH tV a b = .err := by
  unfold overlapExtAt
  split
  · rfl
  · rcases h with h | h
    · simp [h]
    · cases parseExt a <;> simp [h]

theorem overlapExt_nonint_err (a b : String) (h : parseExt a = none ∨ parseExt b = none) : overlapExt a b = .err := by
  unfold overlapExt
  simp only []
  split
  · rfl
  · exact overlapExtAt_nonint_err _ _ a b h

/-! ### array form -/

theorem allExt_cons (a : String) (l : List String) : allExt (a :: l) = ((parseExt a).isSome && allExt l) := by
  simp [allExt]

theorem allExt_mem (l : List String) (h : allExt l = true) (s : String) (hs : s ∈ l) : (parseExt s).isSome = true := by
  unfold allExt at h; exact List.all_eq_true.mp h s hs

theorem overlapExt_ok_parses (a b : String) (v : Bool) (h : overlapExt a b = .ok v) :
    (parseExt a).isSome = true ∧ (parseExt b).isSome = true := by
  by_contra hc
  have : parseExt a = none ∨ parseExt b = none := by
    cases ha : parseExt a <;> cases hb : parseExt b <;> simp_all
  rw [overlapExt_nonint_err a b this] at h
  cases h

theorem ovInner_ok (a : String) (restA : List String) (f : String → Bool) :
    ∀ bs : List String, (∀ b ∈ bs, overlapExt a b = .ok (f b)) → allExt restA = true → allExt bs = true →
      ovInner a restA bs = .ok (bs.any f) := by
  intro bs
  induction bs with
  | nil => intro _ _ _; rfl
  | cons b bs ih =>
    intro h hA hB
    rw [allExt_cons, Bool.and_eq_true] at hB
    simp only [ovInner, h b List.mem_cons_self, List.any_cons]
    cases hf : f b
    · simp only [Bool.false_or]
      exact ih (fun b' hb' => h b' (List.mem_cons_of_mem _ hb')) hA hB.2
    · simp [hA, hB.2]

theorem ovOuter_ok (bs : List String) (f : String → String → Bool) (hB : allExt bs = true) :
    ∀ as : List String, (∀ a ∈ as, ∀ b ∈ bs, overlapExt a b = .ok (f a b)) → allExt as = true →
      ovOuter bs as = .ok (as.any fun a => bs.any fun b => f a b) := by
  intro as
  induction as with
  | nil => intro _ _; rfl
  | cons a as ih =>
    intro h hA
    rw [allExt_cons, Bool.and_eq_true] at hA
    simp only [ovOuter, ovInner_ok a as (f a) bs (h a List.mem_cons_self) hA.2 hB, List.any_cons]
    cases hv : bs.any (f a)
    · simp only [Bool.false_or]
      exact ih (fun a' ha' => h a' (List.mem_cons_of_mem _ ha')) hA.2
    · simp

/-- **arr_eq_any**: on well-formed lists whose pairwise checks answer, the array form is the disjunction of the pairwise form -/
theorem arr_eq_any (as bs : List String) (f : String → String → Bool) (hA : allExt as = true) (hB : allExt bs = true)
    (h : ∀ a ∈ as, ∀ b ∈ bs, overlapExt a b = .ok (f a b)) :
    overlapExtArr as bs = .ok (as.any fun a => bs.any fun b => f a b) := by
  unfold overlapExtArr
  rw [ovOuter_ok bs f hB as h hA]
  cases hv : (as.any fun a => bs.any fun b => f a b)
  · simp [hA, hB]
  · rfl

/-- **arr_empty**: false when either list is empty (and the other is well formed) -/
theorem arr_empty_left (bs : List String) (hB : allExt bs = true) : overlapExtArr [] bs = .ok false :=
  arr_eq_any [] bs (fun _ _ => false) rfl hB (fun _ ha => nomatch ha)
theorem arr_empty_right (as : List String) (hA : allExt as = true) : overlapExtArr as [] = .ok false := by
  rw [arr_eq_any as [] (fun _ _ => false) hA rfl (fun _ _ _ hb => nomatch hb)]
  simp

/-! the zoom change of one voxel is never empty (`zoomOne_ne_nil`), so the `ids[0]` of the pairwise check always exists -/

theorem overlapAt_no_panic (tH tV : Int) (e1 e2 : Ext) : overlapAt tH tV e1 e2 ≠ .panic := by
  obtain ⟨x, xs, hx⟩ := List.exists_cons_of_ne_nil (zoomOne_ne_nil tH tV e1)
  obtain ⟨y, ys, hy⟩ := List.exists_cons_of_ne_nil (zoomOne_ne_nil tH tV e2)
  simp [overlapAt, changeExtE_single, hx, hy]

theorem overlapExtAt_no_panic (tH tV : Int) (a b : String) : overlapExtAt tH tV a b ≠ .panic := by
  unfold overlapExtAt
  split
  · simp
  · split
    · exact overlapAt_no_panic _ _ _ _
    · simp

theorem overlapExt_no_panic (a b : String) : overlapExt a b ≠ .panic := by
  unfold overlapExt
  simp only []
  by_cases h : (splitSlash a).length ≠ 5 ∨ (splitSlash b).length ≠ 5
  · rw [if_pos h]; simp
  · rw [if_neg h]; exact overlapExtAt_no_panic _ _ _ _

theorem ovInner_spec (a : String) (restA bs : List String) : ovInner a restA bs ≠ .panic ∧
    (ovInner a restA bs = .ok false → ∀ b ∈ bs, overlapExt a b = .ok false) ∧
    (ovInner a restA bs = .ok true →
      allExt restA = true ∧ allExt bs = true ∧ (parseExt a).isSome = true ∧ bs ≠ []) := by
  -- cases: no `b` left; an overlapping pair and the rest valid, or not; no overlap (the recursive call); error; panic
  fun_induction ovInner a restA bs with
  | case1 => simp
  | case2 b bs ho hc =>
    have hp := overlapExt_ok_parses a b true ho
    rw [Bool.and_eq_true] at hc
    simp [allExt_cons, hp, hc]
  | case3 b bs ho hc => simp
  | case4 b bs ho ih =>
    have hp := overlapExt_ok_parses a b false ho
    simp only [allExt_cons, hp.2, Bool.true_and, List.mem_cons, forall_eq_or_imp, ne_eq, reduceCtorEq, not_false_eq_true,
      and_true]
    exact ⟨ih.1, fun h => ⟨ho, ih.2.1 h⟩, fun h => ⟨(ih.2.2 h).1, (ih.2.2 h).2.1, (ih.2.2 h).2.2.1⟩⟩
  | case5 b bs ho => simp
  | case6 b bs ho => exact absurd ho (overlapExt_no_panic a b)

theorem ovOuter_spec (bs as : List String) : (ovOuter bs as ≠ .panic) ∧
    (ovOuter bs as = .ok true → allExt as = true ∧ allExt bs = true ∧ bs ≠ []) ∧
    (ovOuter bs as = .ok false → ∀ a ∈ as, ∀ b ∈ bs, overlapExt a b = .ok false) := by
  fun_induction ovOuter bs as with
  | case1 => simp
  | case2 a as hi ih =>
    have hf := (ovInner_spec a as bs).2.1 hi
    refine ⟨ih.1, fun ht => ?_, fun hfalse => List.forall_mem_cons.mpr ⟨hf, ih.2.2 hfalse⟩⟩
    -- a later row found a pair, so `bs` is not empty and `a` was compared with one of its elements
    obtain ⟨hA, hB, hbs⟩ := ih.2.1 ht
    obtain ⟨b, hb⟩ := List.exists_mem_of_ne_nil _ hbs
    exact ⟨by rw [allExt_cons, (overlapExt_ok_parses a b false (hf b hb)).1, hA]; rfl, hB, hbs⟩
  | case3 a as hi =>
    refine ⟨(ovInner_spec a as bs).1, fun ht => ?_, fun hf => absurd hf hi⟩
    obtain ⟨h1, h2, h3, h4⟩ := (ovInner_spec a as bs).2.2 ht
    exact ⟨by rw [allExt_cons, h3, h1]; rfl, h2, h4⟩

theorem overlapExtArr_no_panic (as bs : List String) : overlapExtArr as bs ≠ .panic := by
  unfold overlapExtArr
  split
  · split <;> simp
  · exact (ovOuter_spec bs as).1

/-- an answer of the array form certifies that both lists are well formed: by the pairs it compared, or, when one list is
empty and nothing was compared, by the explicit validation -/
theorem overlapExtArr_ok (as bs : List String) (v : Bool) (h : overlapExtArr as bs = .ok v) :
    allExt as = true ∧ allExt bs = true := by
  obtain ⟨_, s2, s3⟩ := ovOuter_spec bs as
  unfold overlapExtArr at h
  split at h
  · rename_i ho
    by_cases hc : (allExt as && allExt bs) = true
    · exact Bool.and_eq_true _ _ ▸ hc
    · -- the explicit validation did not run: neither list is empty, so every ID was compared with some other
      have he : ¬ (as.isEmpty || bs.isEmpty) = true := fun he => by simp [he, hc] at h
      simp only [Bool.or_eq_true, List.isEmpty_iff, not_or] at he
      obtain ⟨a0, ha0⟩ := List.exists_mem_of_ne_nil _ he.1
      obtain ⟨b0, hb0⟩ := List.exists_mem_of_ne_nil _ he.2
      simp only [allExt, List.all_eq_true]
      exact ⟨fun a ha => (overlapExt_ok_parses a b0 false (s3 ho a ha b0 hb0)).1,
        fun b hb => (overlapExt_ok_parses a0 b false (s3 ho a0 ha0 b hb)).2⟩
  · cases v
    · exact absurd h ‹_›
    · exact ⟨(s2 h).1, (s2 h).2.1⟩

/-- **arr_rejects**: a malformed ID anywhere in either list is an error — also after an overlapping pair and when the
other list is empty (D14/D18, the early return, fixed) -/
theorem arr_rejects (as bs : List String) (h : allExt as = false ∨ allExt bs = false) : overlapExtArr as bs = .err := by
  cases hr : overlapExtArr as bs with
  | ok v => obtain ⟨hA, hB⟩ := overlapExtArr_ok as bs v hr; rcases h with h | h <;> simp [hA, hB] at h
  | err => rfl
  | panic => exact absurd hr (overlapExtArr_no_panic as bs)

/-! ### spatial IDs through the (abstract) radix tree -/

/-- a spatial ID in the documented domain: zoom 1..35, indices in range, altitude within ±2^24 m -/
def spValid (z f x y : Int) : Prop :=
  1 ≤ z ∧ z ≤ 35 ∧ 0 ≤ x ∧ x < 2 ^ z.toNat ∧ 0 ≤ y ∧ y < 2 ^ z.toNat ∧ -(2 ^ (z - 1).toNat) ≤ f ∧ f < 2 ^ (z - 1).toNat

theorem wf_of_spValid {z f x y : Int} (v : spValid z f x y) : C03.wf ⟨z, x, y, z, f⟩ := by
  unfold spValid at v; unfold C03.wf; dsimp only; omega

theorem pow_split (z : Int) (hz : 1 ≤ z) : (2 : Int) ^ z.toNat = 2 * 2 ^ (z - 1).toNat := by
  rw [← Int.pow_succ', show (z - 1).toNat + 1 = z.toNat by omega]

/-- the offset `2^24 m` expressed in cells of zoom `z` is half the index range -/
theorem offset_eq (z : Int) (hz : 1 ≤ z) : arithShift (2 ^ 24) (z - 25) = 2 ^ (z - 1).toNat := by
  rw [arithShift_eq_ediv _ _ (z - 1).toNat 24 (by omega), Int.mul_comm, Int.mul_ediv_cancel _ (Int.ne_of_gt (two_pow_pos 24))]

theorem offsetF_valid (z f : Int) (hz : 1 ≤ z) (h1 : -(2 ^ (z - 1).toNat) ≤ f) (h2 : f < 2 ^ (z - 1).toNat) :
    offsetF f z = some (f + 2 ^ (z - 1).toNat) := by
  unfold offsetF
  simp only [offset_eq z hz]
  rw [arithShift_nonneg _ _ (by omega), Int.one_mul, pow_split z hz, if_neg (by omega)]

/-- one axis of the tree's prefix test with the offset removed: the offset is a multiple of the zoom ratio -/
theorem offset_prefix (z1 z2 f1 f2 : Int) (h1 : 1 ≤ z1) (h12 : z1 ≤ z2) :
    (f2 + 2 ^ (z2 - 1).toNat) / 2 ^ (z2 - z1).toNat = f1 + 2 ^ (z1 - 1).toNat ↔ f2 / 2 ^ (z2 - z1).toNat = f1 := by
  rw [two_pow_split (z2 - 1).toNat (z1 - 1).toNat (z2 - z1).toNat (by omega),
    Int.add_mul_ediv_right _ _ (Int.ne_of_gt (two_pow_pos _))]
  omega

theorem isPrefixOf_iff (z1 f1 x1 y1 z2 f2 x2 y2 : Int) (h1 : 1 ≤ z1) :
    Key.isPrefixOf ⟨z1, f1 + 2 ^ (z1 - 1).toNat, x1, y1⟩ ⟨z2, f2 + 2 ^ (z2 - 1).toNat, x2, y2⟩ = true ↔
      z1 ≤ z2 ∧ meets ⟨z1, x1, y1, z1, f1⟩ ⟨z2, x2, y2, z2, f2⟩ := by
  simp only [Key.isPrefixOf, Bool.and_eq_true, decide_eq_true_eq, beq_iff_eq, meets, and_assoc]
  refine and_congr_right fun c => ?_
  rw [axisMeet_toNat_le (by omega) c, axisMeet_toNat_le (by omega) c, axisMeet_toNat_le (by omega) c,
    offset_prefix z1 z2 f1 f2 h1 c]
  tauto

/-- **sp_iff_meet**: for two valid spatial IDs the tree test on their keys is the `meets` relation of the voxels -/
theorem sp_iff_meet (z1 f1 x1 y1 z2 f2 x2 y2 : Int) (v1 : spValid z1 f1 x1 y1) (v2 : spValid z2 f2 x2 y2) :
    let k1 : Key := ⟨z1, f1 + 2 ^ (z1 - 1).toNat, x1, y1⟩
    let k2 : Key := ⟨z2, f2 + 2 ^ (z2 - 1).toNat, x2, y2⟩
    (k1.isPrefixOf k2 || k2.isPrefixOf k1) = true ↔ meets ⟨z1, x1, y1, z1, f1⟩ ⟨z2, x2, y2, z2, f2⟩ := by
  simp only [Bool.or_eq_true, isPrefixOf_iff _ _ _ _ _ _ _ _ v1.1, isPrefixOf_iff _ _ _ _ _ _ _ _ v2.1,
    meets_symm ⟨z2, x2, y2, z2, f2⟩]
  exact ⟨fun h => h.elim And.right And.right, fun m => (Int.le_total z1 z2).imp (⟨·, m⟩) (⟨·, m⟩)⟩

theorem spKey_valid {s : String} {z f x y : Int} (h : spAttrs s = some (z, f, x, y)) (v : spValid z f x y) :
    spKey s = some ⟨z, f + 2 ^ (z - 1).toNat, x, y⟩ := by
  obtain ⟨a1, a2, a3, a4, a5, a6, a7, a8⟩ := v
  unfold spKey
  simp only [h, offsetF_valid z f a1 a7 a8]
  have hp := pow_split z a1
  rw [Int.emod_eq_of_lt (by omega) (by omega), Int.emod_eq_of_lt a3 a4, Int.emod_eq_of_lt a5 a6]

/-- **sp pairwise form**: `CheckSpatialIdsOverlap` on two valid IDs answers the `meets` relation -/
theorem overlapSp_valid (a b : String) (z1 f1 x1 y1 z2 f2 x2 y2 : Int)
    (pa : spAttrs a = some (z1, f1, x1, y1)) (pb : spAttrs b = some (z2, f2, x2, y2))
    (v1 : spValid z1 f1 x1 y1) (v2 : spValid z2 f2 x2 y2) :
    overlapSp a b = .ok (decide (meets ⟨z1, x1, y1, z1, f1⟩ ⟨z2, x2, y2, z2, f2⟩)) := by
  unfold overlapSp overlapSpArr
  simp only [List.mapM_cons, List.mapM_nil, spKey_valid pa v1, spKey_valid pb v2, bind, Option.bind, pure,
    List.isEmpty_cons, treeOverlap, List.any_cons, List.any_nil, Bool.or_false]
  rw [if_neg (by decide), Outcome.ok.injEq, Bool.eq_iff_iff, decide_eq_true_eq]
  exact sp_iff_meet z1 f1 x1 y1 z2 f2 x2 y2 v1 v2

/-- **sp_eq_ext**: on inputs valid for both, the tree-based check and the zoom-change-based check agree -/
theorem sp_eq_ext (a b : String) (z1 f1 x1 y1 z2 f2 x2 y2 : Int)
    (pa : spAttrs a = some (z1, f1, x1, y1)) (pb : spAttrs b = some (z2, f2, x2, y2))
    (v1 : spValid z1 f1 x1 y1) (v2 : spValid z2 f2 x2 y2) :
    overlapSp a b = overlapE ⟨z1, x1, y1, z1, f1⟩ ⟨z2, x2, y2, z2, f2⟩ := by
  rw [overlapSp_valid a b _ _ _ _ _ _ _ _ pa pb v1 v2, overlapE_iff_meets _ _ (wf_of_spValid v1) (wf_of_spValid v2)]

/-- **sp_empty**: either list empty ⇒ false (the other list being well formed) -/
theorem sp_empty_left (bs : List String) (h : ∀ b ∈ bs, (spKey b).isSome) : overlapSpArr [] bs = .ok false := by
  obtain ⟨l, hl⟩ := mapM_option_isSome h
  simp [overlapSpArr, hl]

theorem sp_empty_right (as : List String) (h : ∀ a ∈ as, (spKey a).isSome) : overlapSpArr as [] = .ok false := by
  obtain ⟨l, hl⟩ := mapM_option_isSome h
  unfold overlapSpArr
  rw [hl]
  simp

/-- **sp_rejects**: a malformed or out-of-range ID anywhere in either list is an error -/
theorem sp_rejects (as bs : List String) (s : String) (hs : s ∈ as ∨ s ∈ bs) (h : spKey s = none) : overlapSpArr as bs = .err := by
  unfold overlapSpArr
  rcases hs with hs | hs
  · rw [mapM_option_none hs h]
  · cases as.mapM spKey with
    | none => rfl
    | some stored => simp only []; rw [mapM_option_none hs h]

/-- the model of the spatial check never panics (D3 fixed: an empty first list is answered without searching the empty tree) -/
theorem sp_no_panic (as bs : List String) : overlapSpArr as bs ≠ .panic := by
  unfold overlapSpArr
  split
  · simp
  · split
    · simp
    · split <;> simp

example : overlapE ⟨5, 1, 1, 5, -1⟩ ⟨5, 1, 1, 4, -1⟩ = .ok true := by decide
example : overlapE ⟨5, 1, 1, 5, -1⟩ ⟨5, 1, 1, 4, 0⟩ = .ok false := by decide
example : spValid 26 1 1 1 := by unfold spValid; decide

end SpatialId.C05
