/-
C17 — binary-subdivision altitude IDs cover the voxel and stay inside the height range.
Model: SpatialId/Model/BitAlt.lean (binary64 through F64.lean), tied bit-for-bit to transform.calcBitIndex,
convertVerticallIDToBit, convertBitToVerticalID and to the maxHeight ≠ minHeight branches of the two exported conversions
by the op family bitalt.
-/
import SpatialId.Model.BitAlt
import SpatialId.Lemmas.F64Val
namespace SpatialId.C17
open SpatialId F64

/-- the loop refines the binary prefix `idx`: its `n` rounds append `n` digits to it, whatever the arithmetic does -/
theorem loop_prefix (alt : Dy) (n : Nat) (idx : Int) (maxH minH : Dy) :
    calcBitLoop alt n idx maxH minH / 2 ^ n = idx := by
  fun_induction calcBitLoop alt n idx maxH minH with
  | case1 => exact Int.ediv_one _
  | case2 n idx maxH minH border c ih | case3 n idx maxH minH border c ih =>
    rw [Int.pow_succ, ← Int.ediv_ediv_of_nonneg (two_pow_pos n).le, ih]
    omega

/-- **calcBit_lt**: `0 ≤ result < 2^zoom` for every altitude and every height pair, inside the range or not (no hypothesis on
the arithmetic) -/
theorem calcBit_lt (alt : Dy) (z : Int) (maxH minH : Dy) :
    0 ≤ calcBit alt z maxH minH ∧ calcBit alt z maxH minH < 2 ^ z.toNat := by
  simpa [calcBit] using (Int.ediv_eq_iff_of_pos (two_pow_pos _)).mp (loop_prefix alt z.toNat 0 maxH minH)

theorem loop_mono (a1 a2 : Dy) (h : le a1 a2 = true) (n : Nat) (idx : Int) (maxH minH : Dy) :
    calcBitLoop a1 n idx maxH minH ≤ calcBitLoop a2 n idx maxH minH := by
  fun_induction calcBitLoop a2 n idx maxH minH with
  | case1 => exact le_refl _
  | case2 n idx maxH minH border c2 ih =>
    rw [calcBitLoop]
    split
    · exact ih
    · -- the two results differ in the digit of this round already
      by_contra hc
      have := Int.ediv_le_ediv (two_pow_pos n) (not_le.mp hc).le
      rw [loop_prefix, loop_prefix] at this
      omega
  | case3 n idx maxH minH border c2 ih =>
    rw [calcBitLoop, if_neg fun c1 => c2 (le_trans' c1 h)]
    exact ih

/-- **calcBit_mono**: a higher altitude never gets a lower cell -/
theorem calcBit_mono (a1 a2 : Dy) (z : Int) (maxH minH : Dy) (h : le a1 a2 = true) :
    calcBit a1 z maxH minH ≤ calcBit a2 z maxH minH := loop_mono a1 a2 h _ _ _ _

theorem idxAlt_val (i vZoom : Int) (hi : i.natAbs < 2 ^ 53) (hv : 0 ≤ vZoom ∧ vZoom ≤ 35) :
    val (idxAlt i vZoom) = (i : ℚ) * (2 : ℚ) ^ (25 - vZoom) := by
  -- both scalings are exact: the significand stays `i`
  have h25 : val (scale (ofInt i) 25) = (i : ℚ) * (2 : ℚ) ^ (25 : Int) :=
    scale_val_eq (by rw [ofInt_val_exact i hi]) (repVal_dyadic i 25 hi (by omega))
  exact scale_val_eq (by rw [h25, mul_assoc, ← zpow_add₀ two_ne, Int.sub_eq_add_neg])
    (repVal_dyadic i _ hi (by omega))

theorem idxAlt_le (i vZoom : Int) (hi : i.natAbs + 1 < 2 ^ 53) (hv : 0 ≤ vZoom ∧ vZoom ≤ 35) :
    le (idxAlt i vZoom) (idxAlt (i + 1) vZoom) = true := by
  rw [le_iff_val, idxAlt_val i vZoom (by omega) hv, idxAlt_val (i + 1) vZoom (by omega) hv]
  exact mul_le_mul_of_nonneg_right (Int.cast_le.mpr (by omega)) (two_zpow_pos _).le

/-- the two ends, then what lies strictly between them: the order in which both conversions emit a run -/
theorem mem_ends_irange {lo hi : Int} (h : lo ≤ hi) (k : Int) : k ∈ [hi, lo] ++ irange (lo + 1) (hi - 1) ↔ lo ≤ k ∧ k ≤ hi := by
  simp only [List.mem_append, List.mem_cons, List.not_mem_nil, or_false, mem_irange]
  omega

/-- **v2b_contiguous / v2b_covers / v2b_in_range**: the produced IDs are exactly the contiguous run from the cell
containing the voxel's bottom altitude to the cell containing its top altitude, all inside `0..2^zoom-1` -/
theorem v2b_spec (vZoom vIndex outZoom : Int) (maxH minH : Dy) (hi : vIndex.natAbs + 1 < 2 ^ 53) (hv : 0 ≤ vZoom ∧ vZoom ≤ 35)
    (k : Int) :
    let lo := calcBit (idxAlt vIndex vZoom) outZoom maxH minH
    let hi' := calcBit (idxAlt (vIndex + 1) vZoom) outZoom maxH minH
    (k ∈ v2b vZoom vIndex outZoom maxH minH ↔ lo ≤ k ∧ k ≤ hi') ∧ lo ≤ hi' ∧ 0 ≤ lo ∧ hi' < 2 ^ outZoom.toNat := by
  intro lo hi'
  have hmono : lo ≤ hi' := calcBit_mono _ _ outZoom maxH minH (idxAlt_le vIndex vZoom hi hv)
  refine ⟨?_, hmono, (calcBit_lt _ _ _ _).1, (calcBit_lt _ _ _ _).2⟩
  show k ∈ (if hi' = lo then [hi'] else [hi', lo] ++ irange (lo + 1) (hi' - 1)) ↔ _
  split
  · next he => rw [List.mem_singleton]; omega
  · exact mem_ends_irange hmono k

/-- **b2v_contiguous / b2v_covers**: a contiguous run of vertical indices from the cell's bottom altitude to its top
altitude (as computed in binary64) -/
theorem b2v_spec (vZoom vIndex outZoom : Int) (maxH minH : Dy) (k : Int) :
    let voxelHeight := scale (sub maxH minH) (-vZoom)
    let fMax := fIndex (add (mul (ofInt (vIndex + 1)) voxelHeight) minH) outZoom
    let fMin := fIndex (add (mul (ofInt vIndex) voxelHeight) minH) outZoom
    fMin ≤ fMax → (k ∈ b2v vZoom vIndex outZoom maxH minH ↔ fMin ≤ k ∧ k ≤ fMax) :=
  fun hle => mem_ends_irange hle k

/-- **hi_lt_lo_err** (extended IDs → keys): maxHeight < minHeight is an error as soon as an ID is processed -/
theorem extToQVH_inverted (ids : List String) (s : String) (e : Ext) (hs : s ∈ ids) (hp : parseExt s = some e)
    (outH outV : Int) (maxH minH : Dy) (hne : F64.eq maxH minH = false) (hlt : lt minH maxH = false) :
    extToQVH ids outH outV maxH minH = .err := by
  unfold extToQVH
  refine ite_eq_left_iff.mpr fun _ => ?_
  dsimp only
  rw [mapM_option_none hs (by simp only [hp, hne, hlt, Bool.false_eq_true, if_false, ite_self])]

/-- **hi_lt_lo_err** (keys → extended IDs) -/
theorem qvToExtH_inverted (l : List QV) (q : QV) (hq : q ∈ l) (outH outV : Int) (maxH minH : Dy)
    (hne : F64.eq maxH minH = false) (hlt : lt minH maxH = false) : qvToExtH l outH outV maxH minH = .err := by
  unfold qvToExtH
  refine ite_eq_left_iff.mpr fun _ => ?_
  dsimp only
  rw [mapM_option_none hq (by simp only [hne, hlt, Bool.false_eq_true, if_false, ite_self])]

/-- **branch_select**: equal heights select the index form (C11), whatever the height value -/
theorem branch_equal (ids : List String) (outH outV : Int) (hgt : Dy) :
    extToQVH ids outH outV hgt hgt = extToQV ids outH outV := by
  unfold extToQVH extToQV
  simp only [(eq_iff_val hgt hgt).mpr rfl, if_true]
  rfl

/-- the same loop over the rationals (no rounding) -/
def calcQ (alt : ℚ) : Nat → Int → ℚ → ℚ → Int
  | 0, idx, _, _ => idx
  | n + 1, idx, hi, lo =>
    let border := (hi - lo) / 2 + lo
    if border ≤ alt then calcQ alt n (idx * 2 + 1) hi border else calcQ alt n (idx * 2) border lo

def clampFloor (t : ℚ) (n : Nat) : Int := max 0 (min (2 ^ n - 1) ⌊t⌋)

/-- the leading binary digit of a clamped cell index, with the position `s` counted in halves of the range: in the upper
half (`1 ≤ s`) it is 1 and the rest is the index of `s - 1` within that half; in the lower half it is 0 -/
theorem clampFloor_upper (s : ℚ) (n : Nat) (h : 1 ≤ s) :
    clampFloor (s * 2 ^ n) (n + 1) = 2 ^ n + clampFloor ((s - 1) * 2 ^ n) n := by
  have hp : (0 : ℚ) < 2 ^ n := by positivity
  have hF : (2 : Int) ^ n ≤ ⌊s * 2 ^ n⌋ := Int.le_floor.mpr (by push_cast; exact le_mul_of_one_le_left hp.le h)
  have e : (s - 1) * 2 ^ n = s * 2 ^ n - ((2 ^ n : Int) : ℚ) := by push_cast; ring
  rw [e, clampFloor, clampFloor, Int.floor_sub_intCast, Int.pow_succ]
  have := two_pow_pos n
  omega

theorem clampFloor_lower (s : ℚ) (n : Nat) (h : s < 1) : clampFloor (s * 2 ^ n) (n + 1) = clampFloor (s * 2 ^ n) n := by
  have hp : (0 : ℚ) < 2 ^ n := by positivity
  have hF : ⌊s * 2 ^ n⌋ < (2 : Int) ^ n := Int.floor_lt.mpr (by push_cast; exact mul_lt_of_lt_one_left hp h)
  have := two_pow_pos n
  rw [clampFloor, clampFloor, Int.pow_succ, min_eq_right (by omega), min_eq_right (by omega)]

/-- **calcBit_spec** (exact arithmetic): for `hi > lo` the result is the index of the cell of the `2^z`-fold binary
subdivision of `[lo, hi)` containing the altitude, clamped to the first/last cell outside the range -/
theorem calcQ_spec (alt : ℚ) : ∀ (n : Nat) (idx : Int) (hi lo : ℚ), lo < hi →
    calcQ alt n idx hi lo = idx * 2 ^ n + clampFloor ((alt - lo) / (hi - lo) * 2 ^ n) n := by
  intro n
  induction n with
  | zero =>
    intro idx hi lo _
    rw [calcQ, clampFloor, pow_zero, sub_self, max_eq_left (min_le_left _ _), mul_one, add_zero]
  | succ n ih =>
    intro idx hi lo hlt
    have hd : 0 < hi - lo := sub_pos.mpr hlt
    have hw : 0 < (hi - lo) / 2 := half_pos hd
    -- count the position in half-widths `(hi - lo) / 2`, the width of the next level's range in either branch
    have e : (alt - lo) / (hi - lo) * 2 ^ (n + 1) = (alt - lo) / ((hi - lo) / 2) * 2 ^ n := by
      rw [div_div_eq_mul_div]; ring
    rw [calcQ, e, pow_succ]
    split
    · next c =>
      have e1 : alt - ((hi - lo) / 2 + lo) = alt - lo - (hi - lo) / 2 := by ring
      have e2 : hi - ((hi - lo) / 2 + lo) = (hi - lo) / 2 := by ring
      rw [ih _ _ _ (lt_sub_iff_add_lt.mp (half_lt_self hd)), e1, e2, ← div_sub_one hw.ne',
        clampFloor_upper _ _ ((one_le_div₀ hw).mpr (le_sub_iff_add_le.mpr c))]
      ring
    · next c =>
      rw [ih _ _ _ (lt_add_of_pos_left lo hw), add_sub_cancel_right,
        clampFloor_lower _ _ ((div_lt_one hw).mpr (sub_lt_iff_lt_add.mpr (not_le.mp c)))]
      ring

example : calcBit ⟨5, 0⟩ 3 ⟨8, 0⟩ ⟨0, 0⟩ = 5 ∧ calcBit ⟨-1, 0⟩ 3 ⟨8, 0⟩ ⟨0, 0⟩ = 0 ∧ calcBit ⟨100, 0⟩ 3 ⟨8, 0⟩ ⟨0, 0⟩ = 7 := by
  decide

end SpatialId.C17
