/-
C01, longitude index, quantitatively (the part the bit-exact range theorem `C01.x_range` leaves open).
The tile index is computed in binary64 as ⌊2^h · ((lon + 180) / 360)⌋: one rounded addition, one rounded division, an exact
scaling. `x_close` bounds the distance of the computed product from the exact rational X = 2^h (lon+180)/360 by 2^-15 of a
tile for every stored longitude and every zoom 0..35; hence
  * `x_exact`: the index IS the exact ⌊X⌋ unless X lies within 2^-15 of a tile boundary, and
  * `x_within_one`: it never differs from ⌊X⌋ by more than one tile.
This is the proved form of known finding D16 (the index can be one too large within rounding distance below a boundary): the
finding's predicate is the only way the x clause of C01 can fail.
-/
import SpatialId.Props.C01
import SpatialId.Lemmas.F64Err
namespace SpatialId.C01X
open SpatialId F64

theorem frac_close (lon : Dy) (hlo : -180 ≤ val lon) :
    |val (div (add lon c180) c360) - (val lon + 180) / 360| ≤ (2 : ℚ) ^ (-51 : Int) * ((val lon + 180) / 360) + (2 : ℚ) ^ (-1073 : Int) := by
  have hS0 : 0 ≤ val lon + 180 := by linarith
  have ha := add_err lon c180
  rw [c180_val, abs_of_nonneg hS0] at ha
  have hd := div_err (add lon c180) c360 (by decide)
  rw [c360_val] at hd
  -- the sum is one rounding off; dividing that error by 360 and rounding the quotient once more
  have hx : |val (add lon c180) / 360 - (val lon + 180) / 360| ≤
      ((2 : ℚ) ^ (-53 : Int) * (val lon + 180) + (2 : ℚ) ^ (-1075 : Int)) / 360 := by
    rw [← sub_div, abs_div, abs_of_pos (by norm_num : (0 : ℚ) < 360)]
    exact div_le_div_of_nonneg_right ha (by norm_num)
  have h := round_step (two_zpow_pos _).le (by norm_num) hx hd
  rw [abs_of_nonneg (div_nonneg hS0 (by norm_num))] at h
  have hu := two_zpow_pos (-53 : Int)
  have hc := two_zpow_pos (-1075 : Int)
  have hp := mul_nonneg hu.le hS0
  rw [show (2 : ℚ) ^ (-52 : Int) = 2 * (2 : ℚ) ^ (-53 : Int) by norm_num] at h
  rw [← four_crumb, show (2 : ℚ) ^ (-51 : Int) = 4 * (2 : ℚ) ^ (-53 : Int) by norm_num]
  generalize (2 : ℚ) ^ (-53 : Int) = u at *
  generalize (2 : ℚ) ^ (-1075 : Int) = c at *
  linarith

/-- **x_close** — the computed product 2^h·((lon+180)/360) is within 2^-15 of the exact X, for every zoom 0..35 -/
theorem x_close (lon : Dy) (h : Int) (hlo : -180 ≤ val lon) (hhi : val lon < 180) (hh : 0 ≤ h ∧ h ≤ 35) :
    |val (scale (div (add lon c180) c360) h) - (val lon + 180) / 360 * (2 : ℚ) ^ h| ≤ (2 : ℚ) ^ (-15 : Int) := by
  have hsc : val (scale (div (add lon c180) c360) h) = val (div (add lon c180) c360) * (2 : ℚ) ^ h :=
    scale_val_eq rfl (repVal_mul_pow _ (repVal_div _ _) h hh.1)
  rw [hsc, ← sub_mul, abs_mul, abs_of_pos (two_zpow_pos h)]
  have hf := frac_close lon hlo
  have hS1 : (val lon + 180) / 360 < 1 := by rw [div_lt_one (by norm_num)]; linarith
  have hp : (2 : ℚ) ^ h ≤ (2 : ℚ) ^ (35 : Int) := zpow_le_zpow_right₀ (by norm_num) hh.2
  -- the fraction is below 1, so its error is at most 2^-51 + 2^-1073 ≤ 2^-50; the scaling is by at most 2^35
  have b : |val (div (add lon c180) c360) - (val lon + 180) / 360| ≤ (2 : ℚ) ^ (-50 : Int) := by
    rw [show (2 : ℚ) ^ (-50 : Int) = (2 : ℚ) ^ (-51 : Int) * 1 + (2 : ℚ) ^ (-51 : Int) by norm_num]
    exact hf.trans (add_le_add (mul_le_mul_of_nonneg_left hS1.le (two_zpow_pos _).le)
      (zpow_le_zpow_right₀ (by norm_num) (by norm_num)))
  calc |val (div (add lon c180) c360) - (val lon + 180) / 360| * (2 : ℚ) ^ h
      ≤ (2 : ℚ) ^ (-50 : Int) * (2 : ℚ) ^ (35 : Int) := mul_le_mul b hp (two_zpow_pos h).le (two_zpow_pos _).le
    _ = (2 : ℚ) ^ (-15 : Int) := by norm_num

/-- `xIndex` without the fold of 180 and before the clamp (`xIndex_eq`) -/
def rawX (lon : Dy) (h : Int) : Int := floorInt (scale (div (add lon c180) c360) h)

/-- **x_exact** — away from tile boundaries (by 2^-15 of a tile) the computed index is exactly ⌊X⌋ -/
theorem x_exact (lon : Dy) (h : Int) (k : Int) (hlo : -180 ≤ val lon) (hhi : val lon < 180) (hh : 0 ≤ h ∧ h ≤ 35)
    (h1 : (k : ℚ) + (2 : ℚ) ^ (-15 : Int) ≤ (val lon + 180) / 360 * (2 : ℚ) ^ h)
    (h2 : (val lon + 180) / 360 * (2 : ℚ) ^ h < (k : ℚ) + 1 - (2 : ℚ) ^ (-15 : Int)) :
    rawX lon h = k := by
  unfold rawX
  rw [floorInt_val]
  obtain ⟨c1, c2⟩ := abs_le.mp (x_close lon h hlo hhi hh)
  exact Int.floor_eq_iff.mpr ⟨by linarith, by linarith⟩

/-- **x_within_one** — the computed index never differs from the exact ⌊X⌋ by more than one tile -/
theorem x_within_one (lon : Dy) (h : Int) (hlo : -180 ≤ val lon) (hhi : val lon < 180) (hh : 0 ≤ h ∧ h ≤ 35) :
    |rawX lon h - ⌊(val lon + 180) / 360 * (2 : ℚ) ^ h⌋| ≤ 1 := by
  unfold rawX
  rw [floorInt_val]
  have hc := abs_le.mp (x_close lon h hlo hhi hh)
  have hsmall : (2 : ℚ) ^ (-15 : Int) < 1 := by norm_num
  set A := val (scale (div (add lon c180) c360) h)
  set X := (val lon + 180) / 360 * (2 : ℚ) ^ h
  have h1 := Int.floor_mono (show X ≤ A + 1 by linarith)
  have h2 := Int.floor_mono (show A ≤ X + 1 by linarith)
  rw [Int.floor_add_one] at h1 h2
  rw [abs_le]
  omega

theorem xIndex_eq (lon : Dy) (h : Int) (hne : eq lon c180 = false) :
    xIndex lon h = if rawX lon h ≥ 2 ^ h.toNat then 2 ^ h.toNat - 1 else rawX lon h := by
  unfold xIndex rawX; simp only [hne, Bool.false_eq_true, if_false]

/-- **x_index_exact** — `xIndex` itself: for a stored longitude other than 180 whose exact X is at least 2^-15 of a tile away from
both boundaries of tile `k`, with `k` inside the grid, the ID's x is `k` -/
theorem x_index_exact (lon : Dy) (h : Int) (k : Int) (hne : eq lon c180 = false) (hlo : -180 ≤ val lon) (hhi : val lon < 180)
    (hh : 0 ≤ h ∧ h ≤ 35) (hk : k < 2 ^ h.toNat)
    (h1 : (k : ℚ) + (2 : ℚ) ^ (-15 : Int) ≤ (val lon + 180) / 360 * (2 : ℚ) ^ h)
    (h2 : (val lon + 180) / 360 * (2 : ℚ) ^ h < (k : ℚ) + 1 - (2 : ℚ) ^ (-15 : Int)) :
    xIndex lon h = k := by
  rw [xIndex_eq lon h hne, x_exact lon h k hlo hhi hh h1 h2, if_neg (by omega)]

-- the point of shape/point_test.go (lon 139.753098) at zoom 25: the index is the one the library's test expects
example : xIndex ⟨4917125000599003, -45⟩ 25 = 29803148 := by decide +kernel

end SpatialId.C01X
