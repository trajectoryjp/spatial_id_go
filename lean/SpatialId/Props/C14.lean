/-
C14 — the corridor around a line contains the line and stays within its search box.
Model: SpatialId/Model/Corridor.lean — the set algebra of transform.GetExtendedSpatialIdsWithinRadiusOfLine over three
oracles (the line's voxels, the fitted layer counts of the line voxel the function happens to pick, the distance test),
tied to the Go function by the op family corridor: the harness obtains the oracles' answers from the same library calls, the
driver accepts the implementation's result iff it equals the model's result for the layer counts of SOME line voxel.
-/
import SpatialId.Model.Corridor
import SpatialId.Props.C08
namespace SpatialId.C14
open SpatialId

theorem mem_corridor (line : List Ext) (H V : Int) (close : Ext → Bool) (skips : Bool) (o : Ext) :
    o ∈ corridorE line H V close skips ↔
      o ∈ line ∨ (o ∈ nNE line H V ∧ o ∉ line ∧ (skips = true ∨ close o = true)) := by
  -- either way the result is the line plus a filtered part of its neighbourhood; `skips` only says whether `close` is asked
  rw [or_comm]
  cases skips <;> simp [corridorE, mem_dedup, and_assoc, -List.filter_filter]

/-- **corr_contains_line**: every ID of the line itself is in the result -/
theorem corr_contains_line (line : List Ext) (H V : Int) (close : Ext → Bool) (skips : Bool) (o : Ext) (h : o ∈ line) :
    o ∈ corridorE line H V close skips := (mem_corridor ..).mpr (Or.inl h)

/-- **corr_nodup** -/
theorem corr_nodup (line : List Ext) (H V : Int) (close : Ext → Bool) (skips : Bool) :
    (corridorE line H V close skips).Nodup := by
  unfold corridorE; split <;> exact nodup_dedup _

theorem nOffsets_zero : nOffsets 0 0 = [] := by decide

/-- **corr_radius0**: when the fit reports zero layers (radius 0: the distance to a neighbour is never negative) the result
is exactly the line's IDs -/
theorem corr_radius0 (line : List Ext) (close : Ext → Bool) (skips : Bool) (o : Ext) :
    o ∈ corridorE line 0 0 close skips ↔ o ∈ line := by
  simp [mem_corridor, nNE, nOffsets_zero, dedup]

/-- **corr_in_box**: every additional ID is a shift of a line voxel by a non-zero offset within the fitted layer counts -/
theorem corr_in_box (line : List Ext) (H V : Int) (close : Ext → Bool) (skips : Bool) (o : Ext)
    (h : o ∈ corridorE line H V close skips) (hn : o ∉ line) :
    ∃ e ∈ line, ∃ d : Off, (-H ≤ d.1 ∧ d.1 ≤ H) ∧ (-H ≤ d.2.1 ∧ d.2.1 ≤ H) ∧ (-V ≤ d.2.2 ∧ d.2.2 ≤ V) ∧
      d ≠ (0, 0, 0) ∧ o = sh e d := by
  rcases (mem_corridor ..).mp h with h | ⟨h1, _, _⟩
  · exact absurd h hn
  · exact (C08.nLayer_set line H V o).mp h1

/-- **corr_measured_subset**: with the distance measurement the result is a subset of the result without it -/
theorem corr_measured_subset (line : List Ext) (H V : Int) (close : Ext → Bool) (o : Ext)
    (h : o ∈ corridorE line H V close false) : o ∈ corridorE line H V close true := by
  rw [mem_corridor] at *
  exact h.imp_right fun h' => ⟨h'.1, h'.2.1, Or.inl rfl⟩

/-- **corr_added_close**: with the measurement every added voxel passed the distance test (`dist < radius`) -/
theorem corr_added_close (line : List Ext) (H V : Int) (close : Ext → Bool) (o : Ext)
    (h : o ∈ corridorE line H V close false) (hn : o ∉ line) : close o = true := by
  rcases (mem_corridor ..).mp h with h | ⟨_, _, h3 | h3⟩
  · exact absurd h hn
  · cases h3
  · exact h3

/-- **corr_zoom**: all results are at the zooms of the line's IDs (shifting keeps both zooms) -/
theorem corr_zoom (line : List Ext) (H V : Int) (close : Ext → Bool) (skips : Bool) (h v : Int)
    (hl : ∀ e ∈ line, e.h = h ∧ e.v = v) (o : Ext) (ho : o ∈ corridorE line H V close skips) : o.h = h ∧ o.v = v := by
  rcases (mem_corridor ..).mp ho with hm | ⟨h1, _, _⟩
  · exact hl o hm
  · obtain ⟨e, he, d, _, _, _, _, rfl⟩ := (C08.nLayer_set line H V o).mp h1
    exact hl e he

/-- **corr_errors**: an error of the line query (nil point, invalid zoom) or a negative radius is an error -/
theorem corr_errors (H V : Int) (close : Ext → Bool) (skips : Bool) (l : List Ext) :
    corridor .err false H V close skips = .err ∧ corridor (.ok l) true H V close skips = .err := by
  simp [corridor]

/-- **corr_order_dependent_witness**: the formal reason the Go function is not deterministic (known finding D9) — two
line voxels with different fitted layer counts give different results, and `idsOnLine[0]` is whichever the map iteration
yields first -/
theorem corr_order_dependent_witness :
    corridorE [⟨3, 1, 1, 3, 0⟩, ⟨3, 2, 1, 3, 0⟩] 0 0 (fun _ => true) true ≠
    corridorE [⟨3, 1, 1, 3, 0⟩, ⟨3, 2, 1, 3, 0⟩] 1 0 (fun _ => true) true := by decide

end SpatialId.C14
