/-
C18 — projection to a planar CRS and back returns the same point.
Model: SpatialId/Model/Project.lean — the list structure around the third-party projection (wroge/wgs84), which is an
oracle; tied to shape.ConvertPointListToProjectedPointList / ConvertProjectedPointListToPointList by the op family proj
(the harness obtains the oracle's answers from the same third-party call).  The numeric claims for EPSG:3857 are checked on
the implementation's answers (closed form in an independent libm; round trip on the implementation: op family projrt).
-/
import Mathlib.Analysis.SpecialFunctions.Trigonometric.Arctan
import Mathlib.Analysis.SpecialFunctions.Log.Basic
import SpatialId.Model.Project
import SpatialId.Lemmas.Core
namespace SpatialId.C18
open SpatialId F64

/-- both list conversions map an oracle over the points, with a step `g` that also sees the input point -/
theorem mapM_oracle_shape {α β γ} {oracle : α → Option β} {g : α → β → γ} {pts : List α} {l : List γ}
    (h : pts.mapM (fun p => (oracle p).map (g p)) = some l) :
    l.length = pts.length ∧ ∀ i (hi : i < pts.length) (ho : i < l.length),
      ∃ b, oracle pts[i] = some b ∧ l[i] = g pts[i] b := by
  obtain ⟨hlen, hget⟩ := mapM_option_spec h
  refine ⟨hlen, fun i hi ho => ?_⟩
  obtain ⟨b, hb, hg⟩ := Option.map_eq_some_iff.mp (hget i hi ho)
  exact ⟨b, hb, hg.symm⟩

/-- **proj_shape**: the i-th output is the oracle's image of the i-th input with the input's altitude, unchanged -/
theorem proj_shape (oracle : GeoPt → Option (Dy × Dy)) (pts : List GeoPt) (l : List PPt) (h : projList oracle pts = .ok l) :
    l.length = pts.length ∧ ∀ i (hi : i < pts.length) (ho : i < l.length),
      l[i].alt = pts[i].alt ∧ oracle pts[i] = some (l[i].x, l[i].y) := by
  unfold projList at h
  split at h
  · cases h
  next l' hm =>
    cases h
    obtain ⟨hlen, hget⟩ := mapM_oracle_shape hm
    refine ⟨hlen, fun i hi ho => ?_⟩
    obtain ⟨xy, h1, h2⟩ := hget i hi ho
    rw [h2]
    exact ⟨rfl, h1⟩

/-- **proj_err**: an unknown EPSG code (or any failed transform) is reported as a conversion error -/
theorem proj_err (oracle : GeoPt → Option (Dy × Dy)) (pts : List GeoPt) (p : GeoPt) (hp : p ∈ pts) (h : oracle p = none) :
    projList oracle pts = .err := by
  unfold projList
  rw [mapM_option_none hp (by simp [h])]

/-- the inverse direction: same shape; the altitude is carried over whenever the oracle's longitude/latitude are accepted
by `NewPoint` -/
theorem unproj_shape (oracle : PPt → Option (Dy × Dy)) (pts : List PPt) (l : List GeoPt) (h : unprojList oracle pts = .ok l) :
    l.length = pts.length ∧ ∀ i (hi : i < pts.length) (ho : i < l.length),
      ∃ ll, oracle pts[i] = some ll ∧ l[i] = newPointLossy ll.1 ll.2 pts[i].alt := by
  unfold unprojList at h
  split at h
  · cases h
  next l' hm => cases h; exact mapM_oracle_shape hm

theorem newPointLossy_alt (lon lat alt t : Dy) (h1 : lt c180 (F64.abs lon) = false) (h2 : setLat lat = some t) :
    (newPointLossy lon lat alt).alt = alt ∧ (newPointLossy lon lat alt).lon = lon := by
  simp [newPointLossy, h1, h2]

theorem unproj_err (oracle : PPt → Option (Dy × Dy)) (pts : List PPt) (p : PPt) (hp : p ∈ pts) (h : oracle p = none) :
    unprojList oracle pts = .err := by
  unfold unprojList
  rw [mapM_option_none hp (by simp [h])]

theorem proj_no_panic (o1 : GeoPt → Option (Dy × Dy)) (o2 : PPt → Option (Dy × Dy)) (a : List GeoPt) (b : List PPt) :
    projList o1 a ≠ .panic ∧ unprojList o2 b ≠ .panic := by
  unfold projList unprojList
  constructor <;> split <;> simp

/-- **merc_inv_fwd**: `φ ↦ ln tan(π/4 + φ/2)` followed by `y ↦ 2·arctan(eʸ) − π/2` is the identity on (−π/2, π/2):
EPSG:3857 forward and inverse, latitude component, on the unit sphere -/
theorem merc_inv_fwd (φ : ℝ) (h1 : -(Real.pi / 2) < φ) (h2 : φ < Real.pi / 2) :
    2 * Real.arctan (Real.exp (Real.log (Real.tan (Real.pi / 4 + φ / 2)))) - Real.pi / 2 = φ := by
  have ha : 0 < Real.pi / 4 + φ / 2 := by linarith only [h1]
  have hb : Real.pi / 4 + φ / 2 < Real.pi / 2 := by linarith only [h2]
  rw [Real.exp_log (Real.tan_pos_of_pos_of_lt_pi_div_two ha hb),
    Real.arctan_tan ((neg_neg_of_pos (half_pos Real.pi_pos)).trans ha) hb]
  ring

/-- **merc_x_linear**: the longitude component is linear, hence exactly invertible -/
theorem merc_x_linear (R lam : ℝ) (hR : R ≠ 0) : (R * lam) / R = lam := by
  field_simp

end SpatialId.C18
