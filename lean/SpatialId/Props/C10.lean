/-
C10 — converting between ID notations loses nothing.
Model: SpatialId/Model/Notation.lean (`sp2ext`, `ext2sp`, `voxelId`), `expandExt` in Model/Zoom.lean,
`parseExt`/`Ext.id` in Basic.lean; tied by the op family `notation`
(shape.ConvertSpatialIdsToExtendedSpatialIds, shape.ConvertExtendedSpatialIdsToSpatialIds,
transform.ConvertExtendedSpatialIDToSpatialIDs, transform.GetVoxelIDfromSpatialID, object.NewExtendedSpatialID).
-/
import SpatialId.Props.C03
import SpatialId.Lemmas.Parse
namespace SpatialId.C10
open SpatialId

/-- field-level content of `sp2ext1` / `ext2sp1` (the string functions split, permute, join) -/
def sp2extF : List String → Option (List String)
  | [z, f, x, y] => some [z, x, y, z, f]
  | _ => none
def ext2spF : List String → Option (List String)
  | [h, x, y, _v, f] => some [h, f, x, y]
  | _ => none

theorem sp2ext1_eq (s : String) : sp2ext1 s = (sp2extF (splitSlash s)).map joinSlash := by
  unfold sp2ext1 sp2extF
  split <;> simp_all

theorem ext2sp1_eq (s : String) : ext2sp1 s = (ext2spF (splitSlash s)).map joinSlash := by
  unfold ext2sp1 ext2spF
  split <;> simp_all

/-- spatial → extended → spatial is the identity on every 4-field ID, whatever the fields are -/
theorem toExt_toSp (fs : List String) (h : fs.length = 4) : (sp2extF fs).bind ext2spF = some fs := by
  match fs, h with
  | [z, f, x, y], _ => rfl

/-- extended → spatial → extended is the identity on IDs whose two zoom fields agree, component by component -/
theorem toSp_toExt (h x y f : String) : (ext2spF [h, x, y, h, f]).bind sp2extF = some [h, x, y, h, f] := rfl

/-- wrong arity is rejected, in both directions -/
theorem sp2ext_arity (fs : List String) (h : fs.length ≠ 4) : sp2extF fs = none := by
  unfold sp2extF; split
  · simp at h
  · rfl
theorem ext2sp_arity (fs : List String) (h : fs.length ≠ 5) : ext2spF fs = none := by
  unfold ext2spF; split
  · simp at h
  · rfl

/-- the list functions preserve length and order: the i-th output comes from the i-th input -/
theorem sp2ext_list (ids out : List String) (h : sp2ext ids = .ok out) :
    out.length = ids.length ∧ ∀ i (hi : i < ids.length) (ho : i < out.length), sp2ext1 ids[i] = some out[i] :=
  mapM_option_spec (Outcome.ofOption_eq_ok.mp h)

theorem ext2sp_list (ids out : List String) (h : ext2sp ids = .ok out) :
    out.length = ids.length ∧ ∀ i (hi : i < ids.length) (ho : i < out.length), ext2sp1 ids[i] = some out[i] :=
  mapM_option_spec (Outcome.ofOption_eq_ok.mp h)

theorem notation_no_panic (ids : List String) : sp2ext ids ≠ .panic ∧ ext2sp ids ≠ .panic :=
  ⟨Outcome.ofOption_ne_panic _, Outcome.ofOption_ne_panic _⟩

/-- `GetVoxelIDfromSpatialID` returns (x, y, f) of a well-formed extended ID -/
theorem voxelId_components (s : String) (e : Ext) (h : parseExt s = some e) : voxelId s = .ok [e.x, e.y, e.f] := by
  obtain ⟨a, b, c, d, f, hs, _, h2, h3, _, h5⟩ := parseExt_fields s e h
  simp [voxelId, hs, parseInt64Lossy, h2, h3, h5]

/-- the expansion has the elements of the zoom change to `max h v` on both axes (the Go loops run in another order) -/
theorem mem_expandExt_iff_zoomOne (e o : Ext) : o ∈ expandExt e ↔ o ∈ zoomOne (max e.h e.v) (max e.h e.v) e := by
  obtain ⟨eh, ex, ey, ev, ef⟩ := e
  obtain ⟨oh, ox, oy, ov, of⟩ := o
  rw [mem_zoomOne_idx]
  unfold expandExt
  split
  · rename_i c
    simp only [max_eq_right (Int.le_of_lt c), mem_hZoomIdx_range, vZoomIdx_self, List.mem_flatMap, List.mem_map,
      List.mem_singleton, Ext.mk.injEq]
    constructor
    · rintro ⟨x, hx, y, hy, rfl, rfl, rfl, rfl, rfl⟩; exact ⟨rfl, rfl, ⟨hx, hy⟩, rfl⟩
    · rintro ⟨rfl, rfl, ⟨hx, hy⟩, rfl⟩; exact ⟨ox, hx, oy, hy, rfl, rfl, rfl, rfl, rfl⟩
  · split
    · rename_i c
      simp only [max_eq_left (Int.le_of_lt c), hZoomIdx_self, List.mem_map, List.mem_singleton, Prod.mk.injEq, Ext.mk.injEq]
      constructor
      · rintro ⟨f, hf, rfl, rfl, rfl, rfl, rfl⟩; exact ⟨rfl, rfl, ⟨rfl, rfl⟩, hf⟩
      · rintro ⟨rfl, rfl, ⟨rfl, rfl⟩, hf⟩; exact ⟨of, hf, rfl, rfl, rfl, rfl, rfl⟩
    · rename_i c1 c2
      obtain rfl : ev = eh := Int.le_antisymm (Int.not_lt.mp c1) (Int.not_lt.mp c2)
      simp only [max_self, hZoomIdx_self, vZoomIdx_self, List.mem_singleton, Prod.mk.injEq, Ext.mk.injEq]
      exact ⟨fun ⟨a, b, c, d, f⟩ => ⟨a, d, ⟨b, c⟩, f⟩, fun ⟨a, d, ⟨b, c⟩, f⟩ => ⟨a, b, c, d, f⟩⟩

theorem mem_expandExt {e : Ext} (he : C03.wf e) (o : Ext) :
    o ∈ expandExt e ↔ o.h = max e.h e.v ∧ o.v = max e.h e.v ∧ meets e o := by
  rw [mem_expandExt_iff_zoomOne, mem_zoomOne_in (le_max_left _ _) (le_max_right _ _) he]

theorem expand_zoom (e o : Ext) (he : C03.wf e) (ho : o ∈ expandExt e) : o.h = max e.h e.v ∧ o.v = max e.h e.v :=
  let h := (mem_expandExt he o).mp ho; ⟨h.1, h.2.1⟩

/-- **expand_region**: the union of the expansion is exactly the original voxel -/
theorem expand_region (e : Ext) (he : C03.wf e) (p : Pt) : p ∈ regionL (expandExt e) ↔ p ∈ region e := by
  constructor
  · rintro ⟨o, ho, hp⟩
    exact C03.zoomIn_subset _ _ e o he (le_max_left _ _) (le_max_right _ _) ((mem_expandExt_iff_zoomOne e o).mp ho) hp
  · intro hp
    obtain ⟨o, ho, hpo⟩ := C03.zoomIn_cover _ _ e he (le_max_left _ _) (le_max_right _ _) p hp
    exact ⟨o, (mem_expandExt_iff_zoomOne e o).mpr ho, hpo⟩

/-- **expand_nodup** -/
theorem expand_nodup (e : Ext) : (expandExt e).Nodup := by
  unfold expandExt
  split
  · exact nodup_flatMap_map_inj _ (nodup_irange _ _) (nodup_irange _ _)
      fun _ _ _ _ h => ⟨(Ext.mk.inj h).2.1, (Ext.mk.inj h).2.2.1⟩
  · split
    · exact (vZoomIdx_nodup _ _ _).map fun _ _ h => (Ext.mk.inj h).2.2.2.2
    · exact List.nodup_singleton e

/-- **expand_count**: `4^d` voxels when the vertical zoom is `d` finer, `2^d` when the horizontal zoom is -/
theorem expand_count_h (e : Ext) (d : Nat) (hd : 0 < d) (hv : e.v = e.h + d) : (expandExt e).length = 4 ^ d := by
  unfold expandExt
  rw [if_pos (by omega), hZoomMinMax_in _ _ _ _ (by omega), show (e.v - e.h).toNat = d by omega]
  simp only []
  rw [length_flatMap_map, length_irange_block, length_irange_block, ← Nat.mul_pow]

theorem expand_count_v (e : Ext) (d : Nat) (hd : 0 < d) (hh : e.h = e.v + d) : (expandExt e).length = 2 ^ d := by
  unfold expandExt
  rw [if_neg (by omega), if_pos (by omega), List.length_map, hh, length_vZoomIdx_in]

example : (expandExt ⟨1, 0, 0, 2, -1⟩).map Ext.spId = ["2/-1/0/0", "2/-1/0/1", "2/-1/1/0", "2/-1/1/1"] := by decide

end SpatialId.C10
