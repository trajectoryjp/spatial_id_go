/-
C19 — all operations may be called concurrently.
The library is modelled as an abstract machine over a global store `G`; the store of the real library is the
*regenerated* table `Gen.globals` (every package-level `var`), and `Gen.globalWrites` lists every syntactic non-read use
of one of them (assignment also through field/index/pointer, increment/decrement, address taken, method call).  Both tables
are rewritten from /repo's source on every run by /verif/extract, so a new package-level variable or a new write site
breaks `repo_readonly` / `globals_immutable` (unless it is a read-only value or table).  The race detector run of the conc op family searches for a failing schedule.
-/
import SpatialId.Gen.Globals
namespace SpatialId.C19

/-- an operation of the library: reads the store and its arguments, returns a new store and a result -/
structure Op (G A R : Type) where
  step : G → A → G × R

/-- running a schedule (any interleaving of whole operations, each by some goroutine) from store `g`:
the results in schedule order -/
def run {G A R} (op : Op G A R) : G → List A → List R
  | _, [] => []
  | g, a :: as => let (g', r) := op.step g a; r :: run op g' as

/-- **readonly_interleaving**: if no operation changes the store then under every schedule each call returns exactly
what it returns when run alone from the initial store -/
theorem readonly_interleaving {G A R} (op : Op G A R) (hro : ∀ g a, (op.step g a).1 = g) (g : G) (sched : List A) :
    run op g sched = sched.map fun a => (op.step g a).2 := by
  induction sched with
  | nil => rfl
  | cons a as ih =>
    simp only [run, List.map_cons]
    rw [hro g a, ih]

/-- … in particular the result of a call does not depend on what was scheduled before it or on the order -/
theorem result_independent_of_schedule {G A R} (op : Op G A R) (hro : ∀ g a, (op.step g a).1 = g) (g : G)
    (pre pre' : List A) (a : A) :
    (run op g (pre ++ [a])).getLast? = (run op g (pre' ++ [a])).getLast? := by
  rw [readonly_interleaving op hro, readonly_interleaving op hro]
  simp

/-- **repo_readonly**: the regenerated table of non-read uses of package-level variables is empty -/
theorem repo_readonly : Gen.globalWrites = [] := by decide

/-- **globals_immutable**: every package-level variable is a `value` (scalar, string, array of those, `errors.New` value:
only a non-read use of its name can change it) or a `table` (slice or map of scalars whose every use other than indexing,
`len`, `cap`, `range` is listed in `globalWrites`); none is a pointer, struct, interface, channel, sync type or other
reference.  Together with `repo_readonly` the library keeps no mutable package-level state; a new read-only constant
table does not break this, a cache, pool or scratch buffer does. -/
theorem globals_immutable : ∀ g ∈ Gen.globals, g.2.2.1 = "value" ∨ g.2.2.1 = "table" := by decide

/-! non-vacuity on a sample table: a scalar constant and a ranged-over sign table pass, a mutex would not -/
example : (∀ g ∈ [("transform", "alt25", "value", "= math.Pow(2, 25)"), ("operated", "signs", "table", "= []int64{-1, 1}")],
    g.2.2.1 = "value" ∨ g.2.2.1 = "table") ∧
    ¬ (∀ g ∈ [("common", "mu", "ref", "sync.Mutex")], g.2.2.1 = "value" ∨ g.2.2.1 = "table") := by decide

end SpatialId.C19
