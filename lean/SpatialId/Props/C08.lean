/-
C08 — neighbourhood queries return exactly the surrounding voxels.
Model: SpatialId/Model/Shift.lean (`n6E`, `n8E`, `n26E`, `nNE`, `nN`), tied to the four functions of
operated/shifting_spatial_id.go by the op families nbr and nN.
-/
import SpatialId.Props.C07
namespace SpatialId.C08
open SpatialId

/-! the stencils are what the property says they are: unit steps along one axis; the horizontal ring; the full 3×3×3 shell -/

theorem stencil6_spec : ∀ dx ∈ [-1, 0, 1], ∀ dy ∈ [-1, 0, 1], ∀ dv ∈ [-1, 0, (1:Int)],
    ((dx, dy, dv) ∈ stencil6 ↔ dx.natAbs + dy.natAbs + dv.natAbs = 1) := by decide
theorem stencil8_spec : ∀ dx ∈ [-1, 0, 1], ∀ dy ∈ [-1, 0, 1], ∀ dv ∈ [-1, 0, (1:Int)],
    ((dx, dy, dv) ∈ stencil8 ↔ dv = 0 ∧ (dx ≠ 0 ∨ dy ≠ 0)) := by decide
theorem stencil26_spec : ∀ dx ∈ [-1, 0, 1], ∀ dy ∈ [-1, 0, 1], ∀ dv ∈ [-1, 0, (1:Int)],
    ((dx, dy, dv) ∈ stencil26 ↔ (dx, dy, dv) ≠ (0, 0, 0)) := by decide
theorem stencil26_inside : ∀ o ∈ stencil26, o.1 ∈ [-1, 0, 1] ∧ o.2.1 ∈ [-1, 0, 1] ∧ o.2.2 ∈ [-1, 0, (1:Int)] := by decide

/-- **n6_eq / n8_eq**: the 6- and 8-neighbour queries are the shifts by the stencil, in order -/
theorem n6_eq (e : Ext) : n6E e = stencil6.map (sh e) := by
  simp [n6E, stencil6, sh]

theorem n8_eq (e : Ext) : n8E e = stencil8.map (sh e) := by
  simp [n8E, stencil8, sh]

/-- **n26_eq**: the 26-neighbour query is the shifts by the full shell (uses the composition law of C07) -/
theorem n26_eq (e : Ext) (hh : 0 ≤ e.h) : n26E e = stencil26.map (sh e) := by
  have key (s a b : Int) : shiftE (shiftE e 0 0 s) a b 0 = shiftE e a b s := by
    rw [C07.shift_add e 0 0 s a b 0 hh, Int.zero_add, Int.zero_add, Int.add_zero]
  simp [n26E, n8E, stencil26, stencil8, key, sh]

theorem mem_nOffsets (H V : Int) (o : Off) :
    o ∈ nOffsets H V ↔ (-H ≤ o.1 ∧ o.1 ≤ H) ∧ (-H ≤ o.2.1 ∧ o.2.1 ≤ H) ∧ (-V ≤ o.2.2 ∧ o.2.2 ≤ V) ∧ o ≠ (0, 0, 0) := by
  obtain ⟨dx, dy, dv⟩ := o
  simp only [nOffsets, List.mem_flatMap, List.mem_filterMap, mem_irange, Option.ite_none_left_eq_some, Option.some.injEq,
    Prod.mk.injEq, ne_eq]
  constructor
  · rintro ⟨a, ha, b, hb, c, hc, hne, rfl, rfl, rfl⟩; exact ⟨ha, hb, hc, hne⟩
  · rintro ⟨ha, hb, hc, hne⟩; exact ⟨dx, ha, dy, hb, dv, hc, hne, rfl, rfl, rfl⟩

/-- membership in the N-layer result: exactly the shifts of a listed voxel by a non-zero offset of the box -/
theorem nLayer_set (es : List Ext) (H V : Int) (o : Ext) :
    o ∈ nNE es H V ↔ ∃ e ∈ es, ∃ d : Off, (-H ≤ d.1 ∧ d.1 ≤ H) ∧ (-H ≤ d.2.1 ∧ d.2.1 ≤ H) ∧
      (-V ≤ d.2.2 ∧ d.2.2 ≤ V) ∧ d ≠ (0, 0, 0) ∧ o = sh e d := by
  simp only [nNE, mem_dedup, List.mem_flatMap, List.mem_map, mem_nOffsets, sh]
  constructor
  · rintro ⟨d, ⟨h1, h2, h3, h4⟩, e, he, rfl⟩; exact ⟨e, he, d, h1, h2, h3, h4, rfl⟩
  · rintro ⟨e, he, d, h1, h2, h3, h4, rfl⟩; exact ⟨d, ⟨h1, h2, h3, h4⟩, e, he, rfl⟩

theorem mem_nNE_single (e : Ext) (H V : Int) (o : Ext) :
    o ∈ nNE [e] H V ↔ ∃ d : Off, (-H ≤ d.1 ∧ d.1 ≤ H) ∧ (-H ≤ d.2.1 ∧ d.2.1 ≤ H) ∧
      (-V ≤ d.2.2 ∧ d.2.2 ≤ V) ∧ d ≠ (0, 0, 0) ∧ o = sh e d := by
  simp only [nLayer_set, List.mem_singleton, exists_eq_left]

theorem nLayer_nodup (es : List Ext) (H V : Int) : (nNE es H V).Nodup := nodup_dedup _

theorem nLayer_neg_err (ids : List String) (H V : Int) (h : H < 0 ∨ V < 0) : nN ids H V = .err := by
  simp [nN, h]

theorem nLayer_malformed_err (ids : List String) (H V : Int) (h : parseAll ids = none) : nN ids H V = .err := by
  unfold nN; split <;> simp [h]

theorem nLayer_no_panic (ids : List String) (H V : Int) : nN ids H V ≠ .panic := by
  unfold nN; split
  · simp
  · split <;> simp

/-! ### distinctness where the stencil is narrower than the grid -/

theorem emod_inj_of_close (x a b w n : Int) (hn : 2 * w + 1 ≤ n) (ha : -w ≤ a ∧ a ≤ w) (hb : -w ≤ b ∧ b ≤ w)
    (h : (x + a) % n = (x + b) % n) : a = b := by
  have hd := Int.dvd_of_emod_eq_zero (Int.emod_eq_emod_iff_emod_sub_eq_zero.mp h)
  rw [Int.add_sub_add_left] at hd
  exact Int.sub_eq_zero.mp (Int.eq_zero_of_dvd_of_natAbs_lt_natAbs hd (by omega))

theorem sh_inj (e : Ext) (hh : 0 ≤ e.h) (d d' : Off) (w : Int) (hw : 2 * w + 1 ≤ 2 ^ e.h.toNat)
    (h1 : -w ≤ d.1 ∧ d.1 ≤ w) (h2 : -w ≤ d.2.1 ∧ d.2.1 ≤ w)
    (h1' : -w ≤ d'.1 ∧ d'.1 ≤ w) (h2' : -w ≤ d'.2.1 ∧ d'.2.1 ≤ w)
    (h : sh e d = sh e d') : d = d' := by
  simp only [sh, C07.shift_spec _ _ _ _ hh, Ext.mk.injEq, true_and] at h
  exact Prod.ext (emod_inj_of_close e.x _ _ w _ hw h1 h1' h.1)
    (Prod.ext (emod_inj_of_close e.y _ _ w _ hw h2 h2' h.2.1) (Int.add_left_cancel h.2.2))

theorem nodup_map_sh (e : Ext) (hh : 0 ≤ e.h) (l : List Off) (w : Int) (hw : 2 * w + 1 ≤ 2 ^ e.h.toNat)
    (hl : l.Nodup) (hin : ∀ d ∈ l, (-w ≤ d.1 ∧ d.1 ≤ w) ∧ (-w ≤ d.2.1 ∧ d.2.1 ≤ w)) : (l.map (sh e)).Nodup :=
  List.pairwise_map.mpr <| hl.imp_of_mem fun hd hd' hne h =>
    hne (sh_inj e hh _ _ w hw (hin _ hd).1 (hin _ hd).2 (hin _ hd').1 (hin _ hd').2 h)

theorem stencil_unit : ∀ l ∈ [stencil6, stencil8, stencil26],
    l.Nodup ∧ ∀ d ∈ l, (-1 ≤ d.1 ∧ d.1 ≤ 1) ∧ (-1 ≤ d.2.1 ∧ d.2.1 ≤ 1) := by decide

/-- **count_narrow (6/8/26)**: where `3 ≤ 2^h` a voxel has 6, 8 and 26 distinct neighbours -/
theorem count_narrow (e : Ext) (hh : 0 ≤ e.h) (hw : 3 ≤ (2 : Int) ^ e.h.toNat) :
    ((n6E e).Nodup ∧ (n6E e).length = 6) ∧ ((n8E e).Nodup ∧ (n8E e).length = 8) ∧
    ((n26E e).Nodup ∧ (n26E e).length = 26) := by
  have key : ∀ l ∈ [stencil6, stencil8, stencil26], (l.map (sh e)).Nodup := fun l hl =>
    nodup_map_sh e hh l 1 (by omega) (stencil_unit l hl).1 (stencil_unit l hl).2
  rw [n6_eq, n8_eq, n26_eq e hh]
  exact ⟨⟨key _ (by simp), rfl⟩, ⟨key _ (by simp), rfl⟩, ⟨key _ (by simp), rfl⟩⟩

/-- **not_self**: for `2H+1 ≤ 2^h` (the guard of `count_general`) the N-layer neighbourhood of a single voxel never contains the voxel -/
theorem not_self (e : Ext) (hh : 0 ≤ e.h) (hx : 0 ≤ e.x ∧ e.x < 2 ^ e.h.toNat) (hy : 0 ≤ e.y ∧ e.y < 2 ^ e.h.toNat)
    (H V : Int) (hH : 0 ≤ H) (hw : 2 * H + 1 ≤ 2 ^ e.h.toNat) : e ∉ nNE [e] H V := by
  rw [mem_nNE_single]
  rintro ⟨d, h1, h2, _, hne, heq⟩
  have h0 : -H ≤ 0 ∧ 0 ≤ H := by omega
  exact hne (sh_inj e hh (0, 0, 0) d H hw h0 h0 h1 h2 ((C07.shift_zero e hh hx hy).trans heq)).symm

/-- **nbr_symm**: the neighbour relation is symmetric (for voxels inside the grid) -/
theorem nbr_symm (e o : Ext) (hh : 0 ≤ e.h) (hx : 0 ≤ e.x ∧ e.x < 2 ^ e.h.toNat) (hy : 0 ≤ e.y ∧ e.y < 2 ^ e.h.toNat)
    (H V : Int) (ho : o ∈ nNE [e] H V) : e ∈ nNE [o] H V := by
  rw [mem_nNE_single] at *
  obtain ⟨⟨a, b, c⟩, h1, h2, h3, hne, rfl⟩ := ho
  -- the way back is the negated offset, which lies in the same box
  have neg {x w : Int} (h : -w ≤ x ∧ x ≤ w) : -w ≤ -x ∧ -x ≤ w := by omega
  refine ⟨(-a, -b, -c), neg h1, neg h2, neg h3, fun h => hne ?_, (C07.shift_neg e a b c hh hx hy).symm⟩
  simpa only [Prod.mk.injEq, Int.neg_eq_zero] using h

theorem n6_malformed (id : String) (h : parseExt id = none) : n6 id = List.replicate 6 "" := by simp [n6, h]
theorem n26_wellformed (id : String) (e : Ext) (h : parseExt id = some e) : n26 id = (n26E e).map Ext.id := by
  simp [n26, h]

example : (n26E ⟨2, 3, 0, 5, -1⟩).Nodup ∧ (n26E ⟨2, 3, 0, 5, -1⟩).length = 26 := by decide
example : ¬ (n8E ⟨1, 0, 0, 5, 0⟩).Nodup := by decide   -- zoom 1: wrapped neighbours coincide

end SpatialId.C08
