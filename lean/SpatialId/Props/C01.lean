/-
C01 — a point is mapped to the one grid voxel that contains it.
Model: SpatialId/Model/Point.lean over the software binary64 of F64.lean (`xIndex`, `yIndex`, `fIndex`,
`pointToExt`, `pointsToExt`, `newPoint`), tied bit-for-bit to shape.GetExtendedSpatialIdsOnPoints /
GetSpatialIdsOnPoints / getHorizontalTileIdOnPoint / getVerticalTileIdOnAltitude / object.NewPoint by the op
families newpt and points; the latitude's transcendental sub-expression `u` is an oracle value (DESIGN §2.3).
-/
import SpatialId.Lemmas.Point
import SpatialId.Spec.Region
namespace SpatialId.C01
open SpatialId F64

/-- **f_exact**: for every binary64 altitude whose scaled value does not underflow, the index is the floor of the
*exact* dyadic `alt·2^v/2^25` — at every vertical zoom and for both signs -/
theorem f_exact (alt : Dy) (v : Int) (hr : Rep alt) (hu : -1074 ≤ alt.e + v - 25) :
    fIndex alt v = floorInt ⟨alt.m, alt.e + v - 25⟩ := by
  rw [fIndex, floorInt_scale alt (v - 25) hr (by omega), Int.add_sub_assoc]

/-- **f_exact (real form)**: `f = ⌊alt · 2^v / 2^25⌋` with `alt = m·2^e` the exact value of the binary64 altitude -/
theorem f_exact_real (alt : Dy) (v : Int) (hr : Rep alt) (hu : -1074 ≤ alt.e + v - 25) :
    fIndex alt v = ⌊((alt.m : ℝ) * (2 : ℝ) ^ alt.e) * (2 : ℝ) ^ v / (2 : ℝ) ^ (25 : ℤ)⌋ := by
  rw [f_exact alt v hr hu, floorInt_mk ℝ]
  congr 1
  have h2 : (2 : ℝ) ≠ 0 := by norm_num
  rw [show alt.e + v - 25 = alt.e + v + (-25) by ring, zpow_add₀ h2, zpow_add₀ h2, zpow_neg]
  field_simp

/-- **floor, not truncation, below ground**: a negative altitude never gets index 0 or above -/
theorem f_neg (alt : Dy) (v : Int) (hr : Rep alt) (hu : -1074 ≤ alt.e + v - 25) (hneg : alt.m < 0) :
    fIndex alt v ≤ -1 := by
  rw [f_exact alt v hr hu]; exact floorInt_of_neg hneg

theorem f_nonneg (alt : Dy) (v : Int) (h : 0 ≤ alt.m) : 0 ≤ fIndex alt v := by
  unfold fIndex; exact floorInt_nonneg (scale_nonneg _ _ h)

theorem folded_ge (lon : Dy) (hdom : ¬ lt c180 (F64.abs lon) = true) :
    -180 ≤ val (if eq lon c180 then neg lon else lon) := by
  have h := val_le_of_not_lt hdom
  rw [abs_val, c180_val] at h
  split
  · rename_i he; rw [neg_val, (eq_iff_val _ _).mp he, c180_val]
  · exact (abs_le.mp h).1

/-- **x_range**: for every longitude NewPoint accepts and every zoom, `0 ≤ x < 2^h` -/
theorem x_range (lon : Dy) (h : Int) (hdom : ¬ lt c180 (F64.abs lon) = true) :
    0 ≤ xIndex lon h ∧ xIndex lon h < 2 ^ h.toNat := by
  have hge := folded_ge lon hdom
  unfold xIndex
  simp only []
  generalize (if eq lon c180 = true then neg lon else lon) = lon' at hge ⊢
  have hnn : 0 ≤ floorInt (scale (div (add lon' c180) c360) h) := by
    have h1 : 0 ≤ (add lon' c180).m := add_nonneg_of_val (by rw [c180_val]; linarith)
    have h2 := div_nonneg _ c360 h1 (by decide)
    exact floorInt_nonneg (scale_nonneg _ h h2)
  have hp := two_pow_pos h.toNat
  split
  · omega
  · omega

/-- **y_formula**: `y = ⌊u·2^h/2⌋` exactly, for any (representable) oracle value `u` -/
theorem y_formula (u : Dy) (h : Int) (hr : Rep u) (_hh : 0 ≤ h) (hu : -1074 ≤ u.e + h - 1) :
    yIndex u h = floorInt ⟨u.m, u.e + h - 1⟩ := by
  by_cases h0 : u.m = 0
  · simp [yIndex, scale, h0, rnd_zero, floorInt_zero]
  · rw [yIndex, show scale u h = ⟨u.m, u.e + h⟩ from rnd_of_fits u.m _ h0 hr.1 (by have := hr.2; omega)]
    exact floorInt_scale ⟨u.m, u.e + h⟩ (-1) ⟨hr.1, (by have := hr.2; omega : -1074 ≤ u.e + h)⟩ hu

/-- **y_range**: `0 ≤ y < 2^h` whenever the oracle value lies in `[0, 2)` -/
theorem y_range (u : Dy) (h : Int) (hr : Rep u) (hh : 0 ≤ h) (hu : -1074 ≤ u.e + h - 1)
    (h0 : 0 ≤ u.m) (h2 : (u.m : ℝ) * (2 : ℝ) ^ u.e < 2) : 0 ≤ yIndex u h ∧ yIndex u h < 2 ^ h.toNat := by
  rw [y_formula u h hr hh hu]
  refine ⟨floorInt_nonneg h0, ?_⟩
  have e : ((2 ^ h.toNat : Int) : ℝ) = 2 * (2 : ℝ) ^ (h - 1) := by
    rw [Int.cast_pow, Int.cast_ofNat, ← zpow_natCast, Int.toNat_of_nonneg hh, ← zpow_one_add₀ two_ne_zero, add_sub_cancel]
  rw [floorInt_mk ℝ, Int.floor_lt, e, show u.e + h - 1 = u.e + (h - 1) by ring, zpow_add₀ two_ne_zero, ← mul_assoc]
  exact mul_lt_mul_of_pos_right h2 (zpow_pos two_pos _)

/-- **names_containing_voxel**: a voxel whose indices are the floors of the scaled grid coordinates of a point
contains the point, and it is the only voxel of its zooms that does -/
theorem names_containing_voxel (p : Pt) (h v : ℕ) :
    let e : Ext := ⟨h, ⌊p.u * 2 ^ h⌋, ⌊p.w * 2 ^ h⌋, v, ⌊p.a * 2 ^ v⌋⟩
    p ∈ region e ∧ ∀ o : Ext, o.h = h → o.v = v → p ∈ region o → o = e := by
  intro e
  refine ⟨⟨by simp [e, cell], by simp [e, cell], by simp [e, cell]⟩, ?_⟩
  intro o h1 h2 ⟨a1, a2, a3⟩
  cases o
  simp only at h1 h2
  subst h1 h2
  simp only [Int.toNat_natCast, cell] at a1 a2 a3
  simp [e, a1, a2, a3]

/-- **list_shape**: the output keeps the length and the order of the input (i-th ID from i-th point) -/
theorem list_shape (pts : List (GeoPt × Dy)) (h v : Int) (r : List Ext)
    (hr : pointsToExt (pts.map some) h v = .ok r) : r = pts.map fun pu => pointToExt pu.1 pu.2 h v := by
  unfold pointsToExt at hr
  split at hr
  · cases hr
  · split at hr
    · cases hr
    · simp only [Outcome.ok.injEq] at hr
      rw [← hr, List.filterMap_map]
      simp

theorem points_zoom_err (pts : List (Option (GeoPt × Dy))) (h v : Int) (hz : ¬ (0 ≤ h ∧ h ≤ 35 ∧ 0 ≤ v ∧ v ≤ 35)) :
    pointsToExt pts h v = .err := by
  simp [pointsToExt, mt (checkZoom2_iff h v).mp hz]

theorem points_nil_err (pts : List (Option (GeoPt × Dy))) (h v : Int) (hn : none ∈ pts) : pointsToExt pts h v = .err := by
  unfold pointsToExt
  split
  · rfl
  · have : pts.any Option.isNone = true := List.any_eq_true.mpr ⟨none, hn, rfl⟩
    simp [this]

/-- the spatial-ID form names the same voxel with h = v -/
theorem spatial_same_voxel (p : GeoPt) (u : Dy) (z : Int) :
    (pointToExt p u z z).h = (pointToExt p u z z).v ∧
    (pointToExt p u z z).spId = joinSlash [fmtInt z, fmtInt (fIndex p.alt z), fmtInt (xIndex p.lon z), fmtInt (yIndex u z)] := by
  simp [pointToExt, Ext.spId]

/-- `nextafter(180, 0)` lies in the last column at every zoom (regression witness of D10) -/
theorem x_last_column_witness : ∀ h ∈ List.range 36, xIndex ⟨180 * 2 ^ 45 - 1, -45⟩ (h : Int) = 2 ^ h - 1 := by
  decide +kernel
/-- longitude 180 is treated as −180 -/
theorem x_180_is_minus_180 : ∀ h ∈ List.range 36, xIndex ⟨180, 0⟩ (h : Int) = 0 := by decide +kernel
/-- tile boundaries are mapped to their own tile: `lon = -180 + 360·k/2^h` gives `x = k` (sampled k, all zooms; for every `k`:
`C02.x_exact_on_boundaries`) -/
theorem x_on_boundaries : ∀ h ∈ List.range 36, ∀ k ∈ [0, 1, 2 ^ h / 2, 2 ^ h - 1],
    k < 2 ^ h → xIndex (sub (scale (mul (ofInt k) c360) (-(h : Int))) c180) (h : Int) = k := by
  intro h hh k hk hlt
  have hh : (0 : Int) ≤ h ∧ (h : Int) ≤ 35 := by have := List.mem_range.mp hh; omega
  have h0 : 0 ≤ k := by
    have := Int.pow_pos (n := 2) (m := h) (by decide)
    simp only [List.mem_cons, List.not_mem_nil, or_false] at hk
    omega
  have hlt : k < 2 ^ (h : Int).toNat := hlt
  exact (xIndex_half_grid (westLon k h) h (2 * k) hh (by omega)
    ((westLon_val k h hh ⟨h0, hlt⟩).trans (by push_cast; ring))).trans (by omega)
set_option exponentiation.threshold 3000 in
/-- the known finding D11 on the model: the smallest negative altitude underflows to index 0 (exact value −1) -/
theorem f_underflow_witness : fIndex ⟨-1, -1074⟩ 0 = 0 ∧ floorInt ⟨-1, -1074 + 0 - 25⟩ = -1 := by decide +kernel
set_option exponentiation.threshold 3000 in
/-- the known finding D16 on the model: a longitude one subnormal below 0 is assigned column 2 at zoom 2 (exact column 1) -/
theorem x_boundary_rounding_witness : xIndex ⟨-1, -1074⟩ 2 = 2 := by decide +kernel
example : fIndex ⟨-1, -1⟩ 25 = -1 := by decide      -- alt = -0.5 m at vZoom 25: floor, not truncation

end SpatialId.C01
