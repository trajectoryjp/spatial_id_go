/-
C11 — quadkeys are the bit-interleaving of x and y, and the round trip is exact.
Model: SpatialId/Model/Quadkey.lean, tied to transform.convertHorizontalIDToQuadkey,
convertQuadkeyToHorizontalID, ConvertQuadkeysAndVerticalIDsToExtendedSpatialIDs,
ConvertExtendedSpatialIDsToQuadkeysAndVerticalIDs, ConvertExtendedSpatialIDsToQuadkeysAndAltitudekeys by the op
families quadkey, quadkeyExh, qv.
-/
import Mathlib.Tactic.Ring
import SpatialId.Model.Quadkey
import SpatialId.Lemmas.Core
namespace SpatialId.C11
open SpatialId

/-- the bits of `v` below position `z`, spread to the even positions: `Σ_{i<z} bit_i(v)·4^i` -/
def spread : Nat → Int → Int
  | 0, _ => 0
  | z + 1, v => v % 2 + 4 * spread z (v / 2)

theorem spread_zero (z : Nat) : spread z 0 = 0 := by
  induction z with
  | zero => rfl
  | succ z ih => simp [spread, ih]

theorem encLoop_eq (mult : Int) : ∀ (fuel i : Nat) (v acc : Int), 0 ≤ v →
    encLoop mult fuel i v acc = acc + mult * 4 ^ i * spread fuel v := by
  intro fuel
  induction fuel with
  | zero => intro i v acc _; simp [encLoop, spread]
  | succ fuel ih =>
    intro i v acc hv
    simp only [encLoop, spread]
    split
    · rw [Int.tdiv_eq_ediv_of_nonneg hv, Int.tmod_eq_emod_of_nonneg hv, ih _ _ _ (Int.ediv_nonneg hv (by decide)),
        Int.pow_mul, Int.pow_succ]
      ring
    · have : v = 0 := by omega
      subst this
      simp [spread_zero]

/-- **enc_bits (closed form)**: the key is `Σ (bit_i x + 2·bit_i y)·4^i` -/
theorem qkEnc_eq (z x y : Int) (hx : 0 ≤ x) (hy : 0 ≤ y) : qkEnc z x y = spread z.toNat x + 2 * spread z.toNat y := by
  unfold qkEnc
  rw [encLoop_eq 1 _ _ _ _ hx, encLoop_eq 2 _ _ _ _ hy]
  simp

theorem spread_bounds (z : Nat) : ∀ v : Int, 0 ≤ spread z v ∧ 3 * spread z v ≤ 4 ^ z - 1 := by
  induction z with
  | zero => intro v; simp [spread]
  | succ z ih =>
    intro v
    have := ih (v / 2)
    simp only [spread]
    omega

/-- **enc_lt**: `0 ≤ key < 4^zoom` -/
theorem enc_lt (z x y : Int) (hx : 0 ≤ x) (hy : 0 ≤ y) : 0 ≤ qkEnc z x y ∧ qkEnc z x y < 4 ^ z.toNat := by
  rw [qkEnc_eq z x y hx hy]
  have a := spread_bounds z.toNat x
  have b := spread_bounds z.toNat y
  omega

theorem interleave_succ (z : Nat) (x y : Int) : spread (z + 1) x + 2 * spread (z + 1) y =
    (x % 2 + 2 * (y % 2)) + 4 * (spread z (x / 2) + 2 * spread z (y / 2)) := by
  simp only [spread]; ring

theorem interleave_divmod (z : Nat) (x y : Int) :
    (spread (z + 1) x + 2 * spread (z + 1) y) / 4 = spread z (x / 2) + 2 * spread z (y / 2) ∧
    (spread (z + 1) x + 2 * spread (z + 1) y) % 4 = x % 2 + 2 * (y % 2) :=
  (Int.ediv_emod_unique (by decide)).mpr ⟨(interleave_succ z x y).symm, by omega, by omega⟩

/-- **enc_bits**: base-4 digit `i` of the key is `bit_i(x) + 2·bit_i(y)` — the base-4 digits interleave the bits of y and x -/
theorem enc_bits (z : Nat) : ∀ (x y : Int) (i : Nat), i < z →
    ((spread z x + 2 * spread z y) / 4 ^ i) % 4 = (x / 2 ^ i) % 2 + 2 * ((y / 2 ^ i) % 2) := by
  induction z with
  | zero => intro x y i hi; omega
  | succ z ih =>
    intro x y i hi
    cases i with
    | zero => simp only [Int.pow_zero, Int.ediv_one, (interleave_divmod z x y).2]
    | succ i =>
      have e (b v : Int) (hb : 0 ≤ b) : v / b ^ (i + 1) = v / b / b ^ i := by
        rw [Int.pow_succ', Int.ediv_ediv_of_nonneg hb]
      rw [e 4 _ (by decide), e 2 x (by decide), e 2 y (by decide), (interleave_divmod z x y).1, ih _ _ i (by omega)]

/-- arithmetic reading of the digit walk: `z` base-4 digits of `k`, most significant first -/
def decA : Nat → Int → Int × Int
  | 0, _ => (0, 0)
  | z + 1, k => let p := decA z (k / 4); (2 * p.1 + (k % 4) % 2, 2 * p.2 + (k % 4) / 2)

theorem decA_zero (z : Nat) : decA z 0 = (0, 0) := by
  induction z with
  | zero => rfl
  | succ z ih => simp [decA, ih]

theorem decStep_digit (p : Int × Int) (d : Nat) (hd : d < 4) :
    decStep p d = (2 * p.1 + ((d : Int) % 2), 2 * p.2 + ((d : Int) / 2)) := by
  have h : d = 0 ∨ d = 1 ∨ d = 2 ∨ d = 3 := by omega
  rcases h with rfl | rfl | rfl | rfl <;> rfl

theorem decA_succ_nat (z n : Nat) : decA (z + 1) (n : Int) = decStep (decA z ((n / 4 : Nat) : Int)) (n % 4) := by
  rw [decStep_digit _ _ (Nat.mod_lt n (by decide))]
  simp only [decA, Int.natCast_ediv, Int.natCast_emod, Nat.cast_ofNat]

/-- the base-4 text has no leading zeros, so it may be shorter than `z`: the missing high digits are zeros, which `decA` absorbs
(`decA_zero`) -/
theorem walk_digits : ∀ (fuel n z : Nat), 1 ≤ z → z ≤ fuel → n < 4 ^ z →
    (digits4Aux fuel n).length ≤ z ∧ (digits4Aux fuel n).foldl decStep (0, 0) = decA z (n : Int) := by
  intro fuel
  induction fuel with
  | zero => intro n z h1 h2; omega
  | succ fuel ih =>
    intro n z h1 h2 h3
    obtain ⟨z, rfl⟩ : ∃ z', z = z' + 1 := ⟨z - 1, by omega⟩
    rw [digits4Aux, decA_succ_nat]
    split
    · rename_i hn
      rw [Nat.div_eq_of_lt hn, Nat.mod_eq_of_lt hn, Nat.cast_zero, decA_zero]
      exact ⟨Nat.le_add_left 1 z, rfl⟩
    · have hz : 1 ≤ z := Nat.pos_of_ne_zero (by rintro rfl; omega)
      obtain ⟨l1, l2⟩ := ih (n / 4) z hz (by omega) (by omega)
      rw [List.length_append, List.foldl_append, l2]
      exact ⟨Nat.succ_le_succ l1, rfl⟩

/-- for a key below `4^zoom` the Go digit walk is `decA zoom` -/
theorem qkDec_eq (k z : Int) (hz : 1 ≤ z ∧ z ≤ 31) (hk : 0 ≤ k ∧ k < 4 ^ z.toNat) : qkDec k z = decA z.toNat k := by
  have hk' : k.toNat < 4 ^ z.toNat := (Int.toNat_lt hk.1).mpr (by push_cast; exact hk.2)
  obtain ⟨l1, l2⟩ := walk_digits 64 k.toNat z.toNat (by omega) (by omega) hk'
  have hneg : ¬ k < 0 := by omega
  have hz1 : z ≥ 1 := hz.1
  simp only [qkDec, digits4, hneg, if_false, hz1, if_true]
  rw [List.take_of_length_le l1, l2, Int.toNat_of_nonneg hk.1]

/-- **dec_enc (arithmetic form)** -/
theorem decA_spread (z : Nat) : ∀ x y : Int, (0 ≤ x ∧ x < 2 ^ z) → (0 ≤ y ∧ y < 2 ^ z) →
    decA z (spread z x + 2 * spread z y) = (x, y) := by
  induction z with
  | zero => intro x y hx hy; simp only [decA, Prod.mk.injEq]; omega
  | succ z ih =>
    intro x y hx hy
    rw [Int.pow_succ] at hx hy
    simp only [decA, interleave_divmod, ih (x / 2) (y / 2) (by omega) (by omega), Prod.mk.injEq]
    omega

theorem spread_succ_bit (z : Nat) (v b : Int) (hb : 0 ≤ b ∧ b < 2) : spread (z + 1) (2 * v + b) = b + 4 * spread z v := by
  obtain ⟨e1, e2⟩ := (Int.ediv_emod_unique (a := 2 * v + b) (by decide : (0 : Int) < 2)).mpr ⟨Int.add_comm _ _, hb⟩
  simp only [spread, e1, e2]

/-- **enc_dec (arithmetic form)** -/
theorem spread_decA (z : Nat) : ∀ k : Int, 0 ≤ k → k < 4 ^ z →
    spread z (decA z k).1 + 2 * spread z (decA z k).2 = k ∧
    (0 ≤ (decA z k).1 ∧ (decA z k).1 < 2 ^ z) ∧ (0 ≤ (decA z k).2 ∧ (decA z k).2 < 2 ^ z) := by
  induction z with
  | zero => intro k h0 h1; simp only [decA, spread]; omega
  | succ z ih =>
    intro k h0 h1
    have := ih (k / 4) (Int.ediv_nonneg h0 (by decide)) (by omega)
    simp only [decA]
    rw [spread_succ_bit _ _ _ (by omega), spread_succ_bit _ _ _ (by omega)]
    omega

/-- **dec_enc**: decoding the key of tile (x, y) at the same zoom returns (x, y) -/
theorem dec_enc (z x y : Int) (hz : 1 ≤ z ∧ z ≤ 31) (hx : 0 ≤ x ∧ x < 2 ^ z.toNat) (hy : 0 ≤ y ∧ y < 2 ^ z.toNat) :
    qkDec (qkEnc z x y) z = (x, y) := by
  have hl := enc_lt z x y hx.1 hy.1
  rw [qkDec_eq _ z hz hl, qkEnc_eq z x y hx.1 hy.1, decA_spread z.toNat x y hx hy]

/-- **enc_dec**: encoding the tile decoded from a key below `4^zoom` returns the key; the correspondence
`[0,2^z)² ↔ [0,4^z)` is one-to-one -/
theorem enc_dec (z k : Int) (hz : 1 ≤ z ∧ z ≤ 31) (hk : 0 ≤ k ∧ k < 4 ^ z.toNat) :
    qkEnc z (qkDec k z).1 (qkDec k z).2 = k ∧
    (0 ≤ (qkDec k z).1 ∧ (qkDec k z).1 < 2 ^ z.toNat) ∧ (0 ≤ (qkDec k z).2 ∧ (qkDec k z).2 < 2 ^ z.toNat) := by
  rw [qkDec_eq k z hz hk]
  have h := spread_decA z.toNat k hk.1 hk.2
  rwa [qkEnc_eq _ _ _ h.2.1.1 h.2.2.1]

/-- **dec_leading_zero**: keys whose base-4 string is shorter than the zoom (leading zero digits dropped) decode
like the padded key — a special case of `qkDec_eq`, stated for emphasis at the smallest key -/
theorem dec_leading_zero (z : Int) (hz : 1 ≤ z ∧ z ≤ 31) : qkDec 0 z = (0, 0) := by
  rw [qkDec_eq 0 z hz ⟨by omega, Int.pow_pos (by decide)⟩, decA_zero]

theorem qvToExt_zoom_err (l : List QV) (outH outV : Int) (h : extCheckZoom outH outV = false) : qvToExt l outH outV = .err := by
  simp [qvToExt, h]

theorem extToQV_zoom_err (ids : List String) (outH outV : Int) (h : qkCheckZoom outH outV = false) :
    extToQV ids outH outV = .err := by
  simp [extToQV, h]

theorem extToQA_zoom_err (ids : List String) (q a E O : Int) (h : qkCheckZoom q a = false) :
    extToQA ids q a E O = .err := by
  simp [extToQA, h]

theorem qkCheckZoom_iff (h v : Int) : qkCheckZoom h v = true ↔ (1 ≤ h ∧ h ≤ 31) ∧ (0 ≤ v ∧ v ≤ 35) := by
  simp [qkCheckZoom]

theorem extCheckZoom_iff (h v : Int) : extCheckZoom h v = true ↔ (0 ≤ h ∧ h ≤ 35) ∧ (0 ≤ v ∧ v ≤ 35) := by
  simp [extCheckZoom]

theorem conversions_no_panic (l : List QV) (ids : List String) (a b c d : Int) :
    qvToExt l a b ≠ .panic ∧ extToQV ids a b ≠ .panic ∧ extToQA ids a b c d ≠ .panic := by
  refine ⟨?_, ?_, ?_⟩
  · unfold qvToExt; split; · simp
    simp only []; split <;> simp
  · unfold extToQV; split; · simp
    simp only []; split <;> simp
  · unfold extToQA; split; · simp
    simp only []; split <;> simp

example : qkEnc 3 5 6 = 57 := by decide        -- x = 101b, y = 110b ⇒ digits 3,2,1 (base 4) = 57
example : qkDec 57 3 = (5, 6) := by decide
example : qkDec 1 3 = (1, 0) := by decide       -- leading zero digits

end SpatialId.C11
