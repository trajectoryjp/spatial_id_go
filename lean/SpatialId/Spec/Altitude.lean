/-
Semantic domain of the altitude-key properties (C12, C13): altitude intervals in fixed point.
All cell boundaries that can occur for zooms and base exponents in 0..35 are integer multiples of
2^-35 m, so an altitude is an integer count of that unit and a cell is a half-open integer interval.
Two such intervals overlap as sets of real altitudes iff they share an integer point.
-/
import SpatialId.Lemmas.Core
namespace SpatialId.Alt

/-- number of units (2^-35 m) per metre -/
def M : Int := 2 ^ 35

abbrev Ivl := Int × Int   -- [lo, hi)

/-- two half-open intervals share a point -/
def inter (I J : Ivl) : Prop := ∃ t : Int, I.1 ≤ t ∧ t < I.2 ∧ J.1 ≤ t ∧ t < J.2

/-- the altitude interval of vertical index `f` at vertical zoom `z` (cell height 2^(25-z) m = 2^(60-z) units) -/
def fCell (f z : Int) : Ivl := (f * 2 ^ (60 - z).toNat, (f + 1) * 2 ^ (60 - z).toNat)

/-- the altitude interval of altitude key `j` on the scale (zoom `z`, base exponent `E`, base offset `O`):
cell height 2^(E-z) m, key 0 starts at -O m -/
def keyCell (j z E O : Int) : Ivl :=
  (j * 2 ^ (E - z + 35).toNat - O * M, (j + 1) * 2 ^ (E - z + 35).toNat - O * M)

/-- an interval widened outward to whole metres -/
def widen (I : Ivl) : Ivl := (I.1 / M * M, -((-I.2) / M) * M)

theorem inter_symm (I J : Ivl) : inter I J ↔ inter J I := by
  constructor <;> rintro ⟨t, a, b, c, d⟩ <;> exact ⟨t, c, d, a, b⟩

theorem inter_iff (I J : Ivl) : inter I J ↔ I.1 < I.2 ∧ J.1 < J.2 ∧ I.1 < J.2 ∧ J.1 < I.2 := by
  constructor
  · rintro ⟨t, a, b, c, d⟩; omega
  · rintro ⟨a, b, c, d⟩
    by_cases h : I.1 ≤ J.1
    · exact ⟨J.1, h, d, Int.le_refl _, b⟩
    · exact ⟨I.1, Int.le_refl _, a, by omega, c⟩

theorem inter_mono {I J J' : Ivl} (h1 : J'.1 ≤ J.1) (h2 : J.2 ≤ J'.2) : inter I J → inter I J' := by
  rintro ⟨t, a, b, c, d⟩; exact ⟨t, a, b, Int.le_trans h1 c, Int.lt_of_lt_of_le d h2⟩

theorem cell_inter_iff (j c o a b : Int) (hc : 0 < c) (hab : a < b) :
    inter (j * c - o, (j + 1) * c - o) (a, b) ↔ (a + o) / c ≤ j ∧ j ≤ (b + o - 1) / c := by
  rw [inter_iff, Int.le_ediv_iff_mul_le hc, ← Int.lt_add_one_iff, Int.ediv_lt_iff_lt_mul hc]
  simp only [Int.add_mul, Int.one_mul]
  omega

theorem keyCell_inter_iff (j z E O : Int) (I : Ivl) (hI : I.1 < I.2) :
    inter (keyCell j z E O) I ↔
      (I.1 + O * M) / 2 ^ (E - z + 35).toNat ≤ j ∧ j ≤ (I.2 + O * M - 1) / 2 ^ (E - z + 35).toNat :=
  cell_inter_iff j _ _ I.1 I.2 (Int.pow_pos (by decide)) hI

theorem fCell_inter_iff (g z : Int) (I : Ivl) (hI : I.1 < I.2) :
    inter (fCell g z) I ↔ I.1 / 2 ^ (60 - z).toNat ≤ g ∧ g ≤ (I.2 - 1) / 2 ^ (60 - z).toNat := by
  have := cell_inter_iff g (2 ^ (60 - z).toNat) 0 I.1 I.2 (Int.pow_pos (by decide)) hI
  rwa [Int.sub_zero, Int.sub_zero, Int.add_zero, Int.add_zero] at this

theorem keyCell_lt (k z E O : Int) : (keyCell k z E O).1 < (keyCell k z E O).2 := by
  have : (0 : Int) < 2 ^ (E - z + 35).toNat := Int.pow_pos (by decide)
  simp only [keyCell, Int.add_mul, Int.one_mul]; omega

theorem fCell_lt (f z : Int) : (fCell f z).1 < (fCell f z).2 := by
  have : (0 : Int) < 2 ^ (60 - z).toNat := Int.pow_pos (by decide)
  simp only [fCell, Int.add_mul, Int.one_mul]; omega

theorem M_pos : 0 < M := by unfold M; decide

theorem M_dvd_two_pow (n : Nat) (h : 35 ≤ n) : M ∣ 2 ^ n :=
  ⟨2 ^ (n - 35), by rw [M, ← Int.pow_add, Nat.add_sub_cancel' h]⟩

theorem widen_fst (I : Ivl) : (widen I).1 = I.1 / M * M := rfl

/-- the ceiling `-(-a / M)` as a floor -/
theorem widen_snd (I : Ivl) : (widen I).2 = ((I.2 - 1) / M + 1) * M :=
  congrArg (· * M) (by rw [show -I.2 = -1 - (I.2 - 1) by omega, neg_one_sub_ediv _ _ M_pos]; omega)

theorem widen_lo_le (I : Ivl) : (widen I).1 ≤ I.1 := Int.ediv_mul_le _ (Int.ne_of_gt M_pos)

theorem widen_hi_ge (I : Ivl) : I.2 ≤ (widen I).2 := by
  have := Int.lt_ediv_add_one_mul_self (I.2 - 1) M_pos
  rw [widen_snd]; omega

theorem widen_lt {I : Ivl} (h : I.1 < I.2) : (widen I).1 < (widen I).2 := by
  have := widen_lo_le I; have := widen_hi_ge I; omega

theorem widen_eq_of_dvd {I : Ivl} (h1 : M ∣ I.1) (h2 : M ∣ I.2) : widen I = I := by
  rw [widen, Int.ediv_mul_cancel h1, Int.neg_ediv_of_dvd h2, Int.neg_neg, Int.ediv_mul_cancel h2]

end SpatialId.Alt
