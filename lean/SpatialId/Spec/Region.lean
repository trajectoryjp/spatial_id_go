/-
The semantic domain of the integer properties: a voxel is a set of points of ℝ³, and the index
arithmetic of the library is justified against that reading.

A point is `(u, w, a)` with `u` the longitude fraction `(lon+180)/360`, `w` the Mercator fraction and
`a = alt / 2^25`.  The cell of `t` at zoom `z` on one axis is `⌊t · 2^z⌋`.
-/
import Mathlib.Algebra.Order.Floor.Ring
import Mathlib.Algebra.Order.Archimedean.Real.Basic
import Mathlib.Tactic.Ring
import Mathlib.Tactic.Linarith
import Mathlib.Tactic.Positivity
import SpatialId.Basic
namespace SpatialId

/-- 1-D dyadic cell index of a real coordinate at zoom `z` -/
noncomputable def cell (z : ℕ) (t : ℝ) : ℤ := ⌊t * 2 ^ z⌋

/-- the ancestor of a cell is obtained by **floor** division -/
theorem cell_zoomOut (z d : ℕ) (t : ℝ) : cell z t = cell (z + d) t / 2 ^ d := by
  unfold cell
  have h2 : (0:ℝ) < 2 ^ d := by positivity
  rw [pow_add, ← mul_assoc]
  have := Int.floor_div_natCast (t * 2 ^ z * 2 ^ d) (2 ^ d)
  simp only [Nat.cast_pow, Nat.cast_ofNat] at this
  rw [← this, mul_div_assoc, div_self (ne_of_gt h2), mul_one]

theorem cell_corner (z : ℕ) (i : ℤ) : cell z ((i : ℝ) / 2 ^ z) = i := by
  unfold cell
  have h2 : (0:ℝ) < 2 ^ z := by positivity
  rw [div_mul_cancel₀ _ (ne_of_gt h2)]
  exact Int.floor_intCast i

/-- index-level relation "cell `i` of zoom `z` and cell `j` of zoom `Z` on one axis share a point":
the finer index floor-divided down to the coarser zoom equals the coarser index. -/
def axisMeet (z Z : ℕ) (i j : ℤ) : Prop :=
  if z ≤ Z then j / 2 ^ (Z - z) = i else i / 2 ^ (z - Z) = j

instance (z Z : ℕ) (i j : ℤ) : Decidable (axisMeet z Z i j) := by unfold axisMeet; exact inferInstance

theorem exists_cell_iff (z d : ℕ) (i j : ℤ) : (∃ t : ℝ, cell z t = i ∧ cell (z + d) t = j) ↔ j / 2 ^ d = i := by
  constructor
  · rintro ⟨t, rfl, rfl⟩; exact (cell_zoomOut z d t).symm
  · intro hj; exact ⟨(j : ℝ) / 2 ^ (z + d), by rw [cell_zoomOut z d, cell_corner, hj], cell_corner _ j⟩

theorem axisMeet_iff (z Z : ℕ) (i j : ℤ) : (∃ t : ℝ, cell z t = i ∧ cell Z t = j) ↔ axisMeet z Z i j := by
  unfold axisMeet
  split
  · obtain ⟨d, rfl⟩ := Nat.exists_eq_add_of_le ‹z ≤ Z›
    rw [Nat.add_sub_cancel_left, exists_cell_iff]
  · obtain ⟨d, rfl⟩ := Nat.exists_eq_add_of_le (Nat.le_of_not_le ‹¬ z ≤ Z›)
    rw [Nat.add_sub_cancel_left, ← exists_cell_iff]
    exact exists_congr fun t => and_comm

theorem axisMeet_self (z : ℕ) (i j : ℤ) : axisMeet z z i j ↔ j = i := by simp [axisMeet]

theorem axisMeet_symm (z Z : ℕ) (i j : ℤ) : axisMeet z Z i j ↔ axisMeet Z z j i := by
  rw [← axisMeet_iff, ← axisMeet_iff]
  exact exists_congr fun t => and_comm

/-- a point of space in grid coordinates -/
structure Pt where
  u : ℝ
  w : ℝ
  a : ℝ

/-- the region of space a voxel names (zooms are read as naturals; valid IDs have them in 0..35) -/
def region (e : Ext) : Set Pt :=
  {p | cell e.h.toNat p.u = e.x ∧ cell e.h.toNat p.w = e.y ∧ cell e.v.toNat p.a = e.f}

def regionL (l : List Ext) : Set Pt := {p | ∃ e ∈ l, p ∈ region e}

/-- decidable index characterisation of "two voxels share a point" -/
def meets (e o : Ext) : Prop :=
  axisMeet e.h.toNat o.h.toNat e.x o.x ∧ axisMeet e.h.toNat o.h.toNat e.y o.y ∧
  axisMeet e.v.toNat o.v.toNat e.f o.f

instance (e o : Ext) : Decidable (meets e o) := by unfold meets; exact inferInstance

theorem meets_iff (e o : Ext) : (region e ∩ region o).Nonempty ↔ meets e o := by
  unfold meets
  rw [← axisMeet_iff, ← axisMeet_iff, ← axisMeet_iff]
  constructor
  · rintro ⟨p, ⟨h1, h2, h3⟩, ⟨h4, h5, h6⟩⟩
    exact ⟨⟨p.u, h1, h4⟩, ⟨p.w, h2, h5⟩, ⟨p.a, h3, h6⟩⟩
  · rintro ⟨⟨u, h1, h4⟩, ⟨w, h2, h5⟩, ⟨a, h3, h6⟩⟩
    exact ⟨⟨u, w, a⟩, ⟨h1, h2, h3⟩, ⟨h4, h5, h6⟩⟩

theorem meets_symm (e o : Ext) : meets e o ↔ meets o e := by
  unfold meets
  rw [axisMeet_symm e.h.toNat, axisMeet_symm e.h.toNat _ e.y, axisMeet_symm e.v.toNat]

/-- the voxel of zooms `(H, V)` that contains the point `p` -/
noncomputable def voxelAt (H V : Int) (p : Pt) : Ext := ⟨H, cell H.toNat p.u, cell H.toNat p.w, V, cell V.toNat p.a⟩

theorem mem_voxelAt (H V : Int) (p : Pt) : p ∈ region (voxelAt H V p) := ⟨rfl, rfl, rfl⟩

theorem meets_voxelAt {e : Ext} (H V : Int) {p : Pt} (hp : p ∈ region e) : meets e (voxelAt H V p) :=
  (meets_iff e _).mp ⟨p, hp, mem_voxelAt H V p⟩

theorem region_nonempty (e : Ext) : (region e).Nonempty :=
  ⟨⟨(e.x : ℝ) / 2 ^ e.h.toNat, (e.y : ℝ) / 2 ^ e.h.toNat, (e.f : ℝ) / 2 ^ e.v.toNat⟩,
    cell_corner _ _, cell_corner _ _, cell_corner _ _⟩

theorem meets_of_subset {e o : Ext} (h : region o ⊆ region e) : meets e o :=
  let ⟨p, hp⟩ := region_nonempty o
  (meets_iff e o).mp ⟨p, h hp, hp⟩

theorem axis_nested {z Z : ℕ} (hz : z ≤ Z) {i j : ℤ} (h : axisMeet z Z i j) {t : ℝ} (ht : cell Z t = j) : cell z t = i := by
  obtain ⟨d, rfl⟩ := Nat.exists_eq_add_of_le hz
  rw [axisMeet, if_pos hz, Nat.add_sub_cancel_left] at h
  rw [cell_zoomOut z d, ht, h]

theorem region_subset_of_meets (e o : Ext) (hh : e.h.toNat ≤ o.h.toNat) (hv : e.v.toNat ≤ o.v.toNat)
    (hm : meets e o) : region o ⊆ region e :=
  fun _ ⟨h1, h2, h3⟩ => ⟨axis_nested hh hm.1 h1, axis_nested hh hm.2.1 h2, axis_nested hv hm.2.2 h3⟩

end SpatialId
